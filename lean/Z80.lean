import Z80.Model.Basic
import Z80.Model.Alu
import Z80.Model.Instr
import Z80.Model.Exec
import Z80.Model.Tables
import Z80.Model.Step
import Z80.Model.Run
import Z80.Model.DasmTable
import Z80.Model.Dasm
import Z80.Spec.Arith
import Z80.Spec.Timing
import Z80.Spec.Footprint
import Z80.Spec.Effects
import Z80.Spec.Mnemonic
import Z80.Spec.Budget
import Z80.Spec.Undocumented
import Z80.Props.C01
import Z80.Props.C02
import Z80.Props.C03
import Z80.Props.C04
import Z80.Props.C05
import Z80.Props.C06
import Z80.Props.C07
import Z80.Props.C08
import Z80.Props.C09
import Z80.Props.C10
import Z80.Props.C11
import Z80.Props.C12
import Z80.Props.C13
import Z80.Props.C14
import Z80.Props.C15
import Z80.Props.C16
import Z80.Props.C17
import Z80.Props.C18
import Z80.Props.C19
import Z80.Props.C20
