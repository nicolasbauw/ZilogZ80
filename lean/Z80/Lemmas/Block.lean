/-
  Z80.Lemmas.Block — the block-repeat loops of the model terminate within their fuel and equal
  the iterated single step; hence what one step respects, the loops respect (`ldRepeat_rel`, `cpRepeat_rel`).
-/
import Z80.Model.Exec
import Z80.Lemmas.Word
namespace Z80

/-- `f` applied `n` times -/
def iter {α : Type} (f : α → α) : Nat → α → α
  | 0, a => a
  | n + 1, a => iter f n (f a)

theorem iter_succ' {α : Type} (f : α → α) (n : Nat) (a : α) : iter f (n + 1) a = f (iter f n a) := by
  induction n generalizing a with
  | zero => rfl
  | succ n ih => simp only [iter] at *; rw [ih]

theorem iter_rel {α : Type} (R : α → α → Prop) (refl : ∀ a, R a a) (trans : ∀ {a b c}, R a b → R b c → R a c)
    (f : α → α) (h : ∀ a, R a (f a)) (n : Nat) (a : α) : R a (iter f n a) := by
  induction n generalizing a with
  | zero => exact refl a
  | succ n ih => exact trans (h a) (ih (f a))

theorem iter_proj {α β : Type} (g : α → β) (f : α → α) (h : ∀ a, g (f a) = g a) (n : Nat) (a : α) :
    g (iter f n a) = g a :=
  iter_rel (fun a b => g b = g a) (fun _ => rfl) (fun h1 h2 => h2.trans h1) f h n a

theorem iter_count {α : Type} (g : α → UInt16) (d : UInt16) (f : α → α) (h : ∀ a, g (f a) = g a + d) (n : Nat) (a : α) :
    g (iter f n a) = g a + UInt16.ofNat n * d := by
  induction n with
  | zero => simp [iter]
  | succ n ih =>
    rw [iter_succ', h, ih, UInt16.add_assoc, UInt16.ofNat_add, UInt16.add_mul, UInt16.ofNat_one, UInt16.one_mul]

theorem iter_pred {α : Type} (g : α → UInt16) (f : α → α) (h : ∀ a, g (f a) = g a - 1) (n : Nat) (a : α) :
    g (iter f n a) = g a - UInt16.ofNat n := by
  rw [iter_count g (-1) f (fun a => (h a).trans (UInt16.sub_eq_add_neg _ _)), UInt16.mul_neg, UInt16.mul_one,
    ← UInt16.sub_eq_add_neg]

theorem iter_congr {α : Type} (f g : α → α) (a : α) (n : Nat) (h : ∀ j, j < n → g (iter f j a) = f (iter f j a)) :
    iter g n a = iter f n a := by
  induction n with
  | zero => rfl
  | succ n ih => rw [iter_succ', iter_succ', ih (fun j hj => h j (by omega)), h n (by omega)]

/-! ### register pairs and the single steps -/

/-- AF is excluded: its low half is F -/
theorem Regs.get16_set16 (r : Regs) (p : R16) (v : UInt16) (f : Flags) (n : UInt16) (hp : p ≠ .af) :
    ({ r.set16 p v with flags := f, pc := n } : Regs).get16 p = v := by
  cases p
  case af => exact absurd rfl hp
  case sp => rfl
  all_goals exact mkWord_hi_lo v

theorem ldStep_bc (up : Bool) (a : Arch) : (ldStep up a).reg.getBC = a.reg.getBC - 1 := mkWord_hi_lo _
theorem ldStep_de (up : Bool) (a : Arch) : (ldStep up a).reg.getDE = (if up then a.reg.getDE + 1 else a.reg.getDE - 1) :=
  mkWord_hi_lo _
theorem ldStep_hl (up : Bool) (a : Arch) : (ldStep up a).reg.getHL = (if up then a.reg.getHL + 1 else a.reg.getHL - 1) :=
  mkWord_hi_lo _
theorem cpStep_bc (up : Bool) (a : Arch) : (cpStep up a).reg.getBC = a.reg.getBC - 1 := mkWord_hi_lo _
theorem cpStep_hl (up : Bool) (a : Arch) : (cpStep up a).reg.getHL = (if up then a.reg.getHL + 1 else a.reg.getHL - 1) :=
  mkWord_hi_lo _

/-- number of iterations of a block repeat started with `bc`: 65,536 for 0 -/
def blockCount (bc : UInt16) : Nat := if bc = 0 then 65536 else bc.toNat

theorem sub_one_toNat (w : UInt16) (h : w ≠ 0) : (w - 1).toNat + 1 = w.toNat := by
  have : w.toNat ≠ 0 := fun hz => h (UInt16.toNat_inj.mp hz)
  rw [UInt16.toNat_sub_of_le _ _ (by rw [UInt16.le_iff_toNat_le]; show 1 ≤ w.toNat; omega)]
  show w.toNat - 1 + 1 = _; omega

/-- both cases at once: one more than the count register after its first decrement -/
theorem blockCount_eq (w : UInt16) : blockCount w = (w - 1).toNat + 1 := by
  unfold blockCount; split
  · next h => rw [h]; rfl
  · next h => exact (sub_one_toNat w h).symm

theorem blockCount_pos (bc : UInt16) : 0 < blockCount bc := by rw [blockCount_eq]; omega

theorem blockCount_le (bc : UInt16) : blockCount bc ≤ 65536 := by
  rw [blockCount_eq]; have := (bc - 1).toNat_lt; omega

theorem blockCount_one (w : UInt16) (h : w - 1 = 0) : blockCount w = 1 := by rw [blockCount_eq, h]; rfl

theorem blockCount_pred (w : UInt16) (h : w - 1 ≠ 0) : blockCount (w - 1) + 1 = blockCount w := by
  rw [blockCount_eq, blockCount_eq, sub_one_toNat _ h]

/-- with enough fuel the LDIR/LDDR loop is the single step iterated `blockCount BC` times -/
theorem ldLoop_eq_iter (up : Bool) (fuel : Nat) (a : Arch) (h : blockCount a.reg.getBC ≤ fuel) :
    ldLoop up fuel a = iter (ldStep up) (blockCount a.reg.getBC) a := by
  induction fuel generalizing a with
  | zero => have := blockCount_pos a.reg.getBC; omega
  | succ fuel ih =>
    simp only [ldLoop]
    by_cases hz : (ldStep up a).reg.getBC = 0
    · simp only [hz, beq_self_eq_true, ↓reduceIte]
      rw [ldStep_bc] at hz
      rw [blockCount_one _ hz]; rfl
    · have hz' : ((ldStep up a).reg.getBC == 0) = false := by simpa using hz
      simp only [hz', Bool.false_eq_true, ↓reduceIte]
      have hb := ldStep_bc up a
      rw [hb] at hz
      have hc := blockCount_pred _ hz
      rw [ih _ (by rw [hb]; omega), hb, ← hc]
      rfl

theorem ldRepeat_eq_iter (up : Bool) (a : Arch) :
    ldRepeat up a = iter (ldStep up) (blockCount a.reg.getBC) a :=
  ldLoop_eq_iter up 65536 a (blockCount_le _)

theorem iter_ldStep_bc (up : Bool) (n : Nat) (a : Arch) :
    (iter (ldStep up) n a).reg.getBC = a.reg.getBC - UInt16.ofNat n :=
  iter_pred (·.reg.getBC) _ (ldStep_bc up) n a

theorem iter_cpStep_bc (up : Bool) (n : Nat) (a : Arch) :
    (iter (cpStep up) n a).reg.getBC = a.reg.getBC - UInt16.ofNat n :=
  iter_pred (·.reg.getBC) _ (cpStep_bc up) n a

/-- the stop condition of CPIR/CPDR after a single step -/
def cpStops (a : Arch) : Bool := a.reg.getBC == 0 || a.reg.flags.z

/-- with enough fuel the CPIR/CPDR loop is the single step iterated up to the first stop -/
theorem cpLoop_spec (up : Bool) (fuel : Nat) (a : Arch) (h : blockCount a.reg.getBC ≤ fuel) :
    ∃ k, 0 < k ∧ k ≤ blockCount a.reg.getBC ∧ cpLoop up fuel a = iter (cpStep up) k a ∧
      cpStops (iter (cpStep up) k a) = true ∧ ∀ j, 0 < j → j < k → cpStops (iter (cpStep up) j a) = false := by
  induction fuel generalizing a with
  | zero => have := blockCount_pos a.reg.getBC; omega
  | succ fuel ih =>
    simp only [cpLoop]
    by_cases hs : cpStops (cpStep up a) = true
    · refine ⟨1, by omega, blockCount_pos _, ?_, hs, fun j h1 h2 => by omega⟩
      have : ((cpStep up a).reg.getBC == 0 || (cpStep up a).reg.flags.z) = true := hs
      simp only [this, ↓reduceIte]; rfl
    · have hs' : ((cpStep up a).reg.getBC == 0 || (cpStep up a).reg.flags.z) = false := by
        simpa [cpStops] using hs
      simp only [hs', Bool.false_eq_true, ↓reduceIte]
      have hb := cpStep_bc up a
      have hz : a.reg.getBC - 1 ≠ 0 := by
        intro e; rw [← hb] at e
        simp [e] at hs'
      have hc := blockCount_pred _ hz
      obtain ⟨k, hk0, hk1, hk2, hk3, hk4⟩ := ih (cpStep up a) (by rw [hb]; omega)
      refine ⟨k + 1, by omega, by rw [hb] at hk1; omega, hk2, hk3, ?_⟩
      intro j hj0 hj1
      cases j with
      | zero => omega
      | succ j =>
        cases j with
        | zero => simpa [iter] using hs
        | succ j => exact hk4 (j + 1) (by omega) (by omega)

theorem cpRepeat_spec (up : Bool) (a : Arch) :
    ∃ k, 0 < k ∧ k ≤ blockCount a.reg.getBC ∧ cpRepeat up a = iter (cpStep up) k a ∧
      cpStops (iter (cpStep up) k a) = true ∧ ∀ j, 0 < j → j < k → cpStops (iter (cpStep up) j a) = false :=
  cpLoop_spec up 65536 a (blockCount_le _)

/-! ### from one step to the loop -/

theorem ldRepeat_rel {R : Arch → Arch → Prop} (refl : ∀ a, R a a) (trans : ∀ {a b c}, R a b → R b c → R a c)
    (up : Bool) (h : ∀ a, R a (ldStep up a)) (a : Arch) : R a (ldRepeat up a) := by
  rw [ldRepeat_eq_iter]; exact iter_rel R refl trans _ h _ a

theorem cpRepeat_rel {R : Arch → Arch → Prop} (refl : ∀ a, R a a) (trans : ∀ {a b c}, R a b → R b c → R a c)
    (up : Bool) (h : ∀ a, R a (cpStep up a)) (a : Arch) : R a (cpRepeat up a) := by
  obtain ⟨k, _, _, e, _⟩ := cpRepeat_spec up a
  rw [e]; exact iter_rel R refl trans _ h k a

theorem ldRepeat_proj {β : Type} (g : Arch → β) (up : Bool) (h : ∀ a, g (ldStep up a) = g a) (a : Arch) :
    g (ldRepeat up a) = g a :=
  ldRepeat_rel (R := fun a b => g b = g a) (fun _ => rfl) (fun h1 h2 => h2.trans h1) up h a

theorem cpRepeat_proj {β : Type} (g : Arch → β) (up : Bool) (h : ∀ a, g (cpStep up a) = g a) (a : Arch) :
    g (cpRepeat up a) = g a :=
  cpRepeat_rel (R := fun a b => g b = g a) (fun _ => rfl) (fun h1 h2 => h2.trans h1) up h a

end Z80
