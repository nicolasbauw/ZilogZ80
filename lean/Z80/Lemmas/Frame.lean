/-
  Z80.Lemmas.Frame — the registers C01 names after each shape of update `exec` performs, as parallel assignments
  (`Spec.assign`) to the registers before; from these, what an instruction leaves alone: registers outside its
  footprint, memory outside the addresses it is specified to write (`Stores`, Lemmas/Rom).
-/
import Z80.Lemmas.Effects
import Z80.Lemmas.Rom
namespace Z80
open Spec

/-! ### assignments that do not reach a name -/

theorem assign_off {l : List (RegName × UInt16)} {g : RegName → UInt16} {r : RegName} (h : r ∉ l.map Prod.fst) :
    assign l g r = g r := by
  have : l.find? (fun p => p.1 == r) = none :=
    List.find?_eq_none.mpr (fun p hp e => h (List.mem_map.mpr ⟨p, hp, eq_of_beq e⟩))
  simp only [assign, this]

theorem assign_setPair_off {p : R16} {w : UInt16} {g : RegName → UInt16} {r : RegName} (h : r ∉ ofR16 p) :
    assign (setPair p w) g r = g r :=
  assign_off (by cases p <;> exact h)

theorem assign_putLoc_off {x : Arch} {l : Loc8} {v : UInt16} {g : RegName → UInt16} {r : RegName} (h : r ∉ ofLoc l) :
    assign (putLoc x l v).regs g r = g r :=
  assign_off (by cases l <;> exact h)

theorem assign_append (l l' : List (RegName × UInt16)) (g : RegName → UInt16) (r : RegName) :
    assign (l ++ l') g r = assign l (assign l' g) r := by
  simp only [assign, List.find?_append]
  cases l.find? (fun p => p.1 == r) <;> rfl

/-! ### the shapes of the post-state

Each lemma is stated on the term `exec` builds, so that it applies to `exec (.c ..) len x` by unification; the value
written is a parameter `v'` with its equation, so that the same lemma serves with the model's value (`rfl`) and with
the specification's. -/

/-- PC, F, R, the bus: not among the registers C01 names -/
theorem getReg_silent (x : Arch) (rr : UInt8) (n : UInt16) (f : Flags) (b : Bus) (r : RegName) :
    getReg { x with reg := { x.reg with r := rr, pc := n, flags := f }, bus := b } r = getReg x r := by
  cases r <;> rfl

theorem getReg_setPC (x : Arch) (n : UInt16) (r : RegName) : getReg (x.setPC n) r = getReg x r :=
  getReg_silent x _ n _ _ r

/-- HALT, the interrupt mode and enables, the latched request -/
theorem getReg_ctl (y : Arch) (hl : Bool) (it : Option UInt8) (m : UInt8) (f1 f2 : Bool) (r : RegName) :
    getReg { y with halt := hl, int := it, im := m, iff1 := f1, iff2 := f2 } r = getReg y r := by
  cases r <;> rfl

/-- A, F, PC (RLD/RRD: and the bus) -/
theorem getReg_acc (x : Arch) (v : UInt8) (f : Flags) (n : UInt16) (b : Bus) {v' : UInt16} (hv : v' = v.toUInt16)
    (r : RegName) :
    getReg { x with reg := { x.reg with a := v, flags := f, pc := n }, bus := b } r = assign [(.a, v')] (getReg x) r := by
  subst hv; cases r <;> rfl

/-- a register pair or SP, F, PC (EX (SP),HL and the pushes: and the bus) -/
theorem getReg_set16 (x : Arch) (p : R16) (w : UInt16) (f : Flags) (n : UInt16) (b : Bus) {w' : UInt16} (hw : w' = w)
    (r : RegName) :
    getReg { x with reg := { x.reg.set16 p w with flags := f, pc := n }, bus := b } r = assign (setPair p w') (getReg x) r := by
  subst hw
  cases p <;> simp only [setPair, hi_eq, lo_eq] <;> cases r <;> rfl

/-- I, PC -/
theorem getReg_i (x : Arch) (v : UInt8) (n : UInt16) (r : RegName) :
    getReg { x with reg := { x.reg with i := v, pc := n } } r = assign [(.i, v.toUInt16)] (getReg x) r := by
  cases r <;> rfl

/-- the exchanges (F' of EX AF,AF' with its value as a parameter, like the values above) -/
theorem getReg_exDEHL (len ret : UInt16) (x : Arch) (r : RegName) :
    getReg (exec .exDEHL len x) r = assign (effects .exDEHL ret x).regs (getReg x) r := by
  cases r
  case d | h => exact congrArg UInt8.toUInt16 (hiByte_mkWord _ _)
  case e | l => exact congrArg UInt8.toUInt16 (loByte_mkWord _ _)
  all_goals rfl

theorem getReg_exx (len ret : UInt16) (x : Arch) (r : RegName) :
    getReg (exec .exx len x) r = assign (effects .exx ret x).regs (getReg x) r := by
  cases r
  case b | d | h | b' | d' | h' => exact congrArg UInt8.toUInt16 (hiByte_mkWord _ _)
  case c | e | l | c' | e' | l' => exact congrArg UInt8.toUInt16 (loByte_mkWord _ _)
  all_goals rfl

theorem getReg_exAF (len : UInt16) (x : Arch) {v' : UInt16}
    (hv : v' = (Flags.ofByte (loByte x.reg.getAF)).toByte.toUInt16) (r : RegName) :
    getReg (exec .exAF len x) r = assign [(.a, getReg x .a'), (.a', getReg x .a), (.f', v')] (getReg x) r := by
  subst hv
  cases r
  case a | a' => exact congrArg UInt8.toUInt16 (hiByte_mkWord _ _)
  all_goals rfl

theorem getReg_write8_only (x : Arch) (l : Loc8) (v : UInt8) (r : RegName) :
    getReg (x.write8 l v) r = assign (putLoc x l v.toUInt16).regs (getReg x) r := by
  cases l with
  | mem m => exact getReg_silent x _ _ _ _ r
  | reg q => cases q <;> cases r <;> rfl

/-- an 8-bit location written after a flag update, PC: registers and bus -/
theorem write8_sound' (x : Arch) (f : Flags) (l : Loc8) (v : UInt8) (n : UInt16) {v' : UInt16} (hv : v' = v.toUInt16) :
    (∀ r, getReg (((x.setFlags f).write8 l v).setPC n) r = assign (putLoc x l v').regs (getReg x) r) ∧
    (((x.setFlags f).write8 l v).setPC n).bus = store (putLoc x l v').mem x.bus := by
  rw [x.write8_setFlags, hv]
  refine ⟨fun r => (getReg_silent (x.write8 l v) _ n f _ r).trans (getReg_write8_only x l v r), ?_⟩
  cases l with
  | reg q => rfl
  | mem m => exact store_byte _ _ v (addrV_eq x m) rfl

/-- the same without the flag update: `x.setFlags x.reg.flags` is `x` (eta) -/
theorem write8_sound (x : Arch) (l : Loc8) (v : UInt8) (n : UInt16) {v' : UInt16} (hv : v' = v.toUInt16) :
    (∀ r, getReg ((x.write8 l v).setPC n) r = assign (putLoc x l v').regs (getReg x) r) ∧
    ((x.write8 l v).setPC n).bus = store (putLoc x l v').mem x.bus :=
  write8_sound' x x.reg.flags l v n hv

/-- LDI/LDD without the PC advance, in the specification's vocabulary -/
theorem getReg_ldStep (up : Bool) (x : Arch) (r : RegName) :
    getReg (ldStep up x) r =
      assign (setPair .de (if up then pairV x .de + 1 else pairV x .de - 1) ++
        setPair .hl (if up then pairV x .hl + 1 else pairV x .hl - 1) ++ setPair .bc (pairV x .bc - 1)) (getReg x) r := by
  simp only [pairV_eq, setPair, hi_eq, lo_eq]
  cases r <;> rfl

/-- CPI/CPD without the PC advance -/
theorem getReg_cpStep (up : Bool) (x : Arch) (r : RegName) :
    getReg (cpStep up x) r =
      assign (setPair .hl (if up then pairV x .hl + 1 else pairV x .hl - 1) ++ setPair .bc (pairV x .bc - 1)) (getReg x) r := by
  simp only [pairV_eq, setPair, hi_eq, lo_eq]
  cases r <;> rfl

/-! ### registers outside the footprint -/

theorem getReg_ldStep_off (up : Bool) (x : Arch) (r : RegName) (h : r ∉ [RegName.b, .c, .d, .e, .h, .l]) :
    getReg (ldStep up x) r = getReg x r :=
  (getReg_ldStep up x r).trans (assign_off fun (m : r ∈ [RegName.d, .e, .h, .l, .b, .c]) => h (by simp_all))

theorem getReg_cpStep_off (up : Bool) (x : Arch) (r : RegName) (h : r ∉ [RegName.b, .c, .h, .l]) :
    getReg (cpStep up x) r = getReg x r :=
  (getReg_cpStep up x r).trans (assign_off fun (m : r ∈ [RegName.h, .l, .b, .c]) => h (by simp_all))

theorem ite_ind {α : Type} {P : α → Prop} {c : Prop} [Decidable c] {a b : α} (ha : P a) (hb : P b) :
    P (if c then a else b) := by
  split <;> assumption

theorem frame_regs (i : Instr) (len : UInt16) (x : Arch) (r : RegName) (h : r ∉ regsWritten i) :
    getReg (exec i len x) r = getReg x r := by
  cases i
  case nop | ldRA | st16m | ccf | scf | bit | jp | jr | jpR | unknown => exact getReg_silent x _ _ _ _ r
  case jpcc | jrcc => exact ite_ind (P := (getReg · r = _)) (getReg_setPC x _ r) (getReg_setPC x _ r)
  case halt => exact getReg_ctl x _ _ _ _ _ r
  case di | ei | im => exact (getReg_ctl (x.setPC _) _ _ _ _ _ r).trans (getReg_setPC x _ r)
  case ld8 | set | res => exact ((write8_sound x _ _ _ rfl).1 r).trans (assign_putLoc_off h)
  case inc8 | dec8 | rot => exact ((write8_sound' x _ _ _ _ rfl).1 r).trans (assign_putLoc_off h)
  case djnz =>
    exact ite_ind (P := (getReg · r = _)) (((write8_sound x (.reg .b) _ _ rfl).1 r).trans (assign_off h))
      (((write8_sound x (.reg .b) _ _ rfl).1 r).trans (assign_off h))
  case alu op _ =>
    cases op
    -- CP writes A back unchanged
    case cp => exact (getReg_acc x x.reg.a _ _ _ rfl r).trans (by cases r <;> rfl)
    all_goals exact (getReg_acc x _ _ _ _ rfl r).trans (assign_off h)
  case ldAI | ldAR | daa | cpl | neg | rlca | rla | rrca | rra | rld | rrd =>
    exact (getReg_acc x _ _ _ _ rfl r).trans (assign_off h)
  case ldIA => exact (getReg_i x _ _ r).trans (assign_off h)
  case ld16 | ld16m | exSP | add16 | inc16 | dec16 =>
    exact (getReg_set16 x _ _ _ _ _ rfl r).trans (assign_setPair_off h)
  case adc16 | sbc16 => exact (getReg_set16 x .hl _ _ _ _ rfl r).trans (assign_setPair_off h)
  case ldSP src => exact (getReg_set16 x .sp (x.reg.get16 src) _ _ _ rfl r).trans (assign_setPair_off h)
  case push | call | rst => exact (getReg_set16 x .sp (x.reg.sp - 2) _ _ _ rfl r).trans (assign_setPair_off h)
  case ret | reti => exact (getReg_set16 x .sp (x.reg.sp + 2) _ _ _ rfl r).trans (assign_setPair_off h)
  case retn =>
    exact (getReg_ctl _ _ _ _ _ _ r).trans ((getReg_set16 x .sp (x.reg.sp + 2) _ _ _ rfl r).trans (assign_setPair_off h))
  case callcc | retcc =>
    exact ite_ind (P := (getReg · r = _)) ((getReg_set16 x .sp _ _ _ _ rfl r).trans (assign_setPair_off h))
      (getReg_setPC x _ r)
  case pop p =>
    -- SP := SP + 2 (`popWord`), then the pair
    have hp : r ∉ ofR16 p := fun m => h (List.mem_cons_of_mem _ m)
    have hs : r ∉ [RegName.sp] := fun m => h (List.mem_singleton.mp m ▸ List.mem_cons_self)
    exact (getReg_set16 x.popWord.2 p _ _ _ _ rfl r).trans ((assign_setPair_off hp).trans
      ((getReg_set16 x .sp (x.reg.sp + 2) _ _ _ rfl r).trans (assign_setPair_off hs)))
  case exDEHL => exact (getReg_exDEHL len 0 x r).trans (assign_off h)
  case exx => exact (getReg_exx len 0 x r).trans (assign_off h)
  case exAF => exact (getReg_exAF len x rfl r).trans (assign_off h)
  case ldi | ldd => exact (getReg_setPC _ _ r).trans (getReg_ldStep_off _ x r h)
  case cpi | cpd => exact (getReg_setPC _ _ r).trans (getReg_cpStep_off _ x r h)
  case ldir | lddr => exact (getReg_setPC _ _ r).trans (ldRepeat_proj (getReg · r) _ (getReg_ldStep_off _ · r h) x)
  case cpir | cpdr => exact (getReg_setPC _ _ r).trans (cpRepeat_proj (getReg · r) _ (getReg_cpStep_off _ · r h) x)

/-! ### memory outside the footprint -/

theorem frame_mem (i : Instr) (len : UInt16) (x : Arch) (addr : UInt16) (hb : isBlockLoad i = false)
    (h : addr ∉ addrsWritten i x) : (exec i len x).bus.readByte addr = x.bus.readByte addr :=
  (exec_stores i len x).frame addr (fun hs => h (hs hb))

/-- the k-th destination address of a block load started with DE = `de` -/
def destAddr (up : Bool) (de : UInt16) (k : Nat) : UInt16 := if up then de + UInt16.ofNat k else de - UInt16.ofNat k

theorem iter_ldStep_de (up : Bool) (n : Nat) (a : Arch) :
    (iter (ldStep up) n a).reg.getDE = destAddr up a.reg.getDE n := by
  cases up
  · exact iter_pred (·.reg.getDE) _ (ldStep_de false) n a
  · exact (iter_count (·.reg.getDE) 1 _ (ldStep_de true) n a).trans (by rw [UInt16.mul_one])

/-- the block loads write only the destination range -/
theorem iter_ldStep_stores (up : Bool) (n : Nat) (a : Arch) :
    Stores (fun x => ∃ k, k < n ∧ x = destAddr up a.reg.getDE k) a.bus (iter (ldStep up) n a).bus := by
  induction n with
  | zero => exact Stores.refl _ _
  | succ n ih =>
    rw [iter_succ']
    exact (ih.mono fun _ ⟨k, hk, e⟩ => ⟨k, by omega, e⟩).trans
      ((ldStep_stores up _).mono fun _ hx => ⟨n, by omega, (List.mem_singleton.mp hx).trans (iter_ldStep_de up n a)⟩)

end Z80
