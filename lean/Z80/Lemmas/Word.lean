/-
  Z80.Lemmas.Word — byte/word packing: what `mkWord`, `hiByte`, `loByte` are as numbers, and the identities that follow.
-/
import Z80.Model.Basic
namespace Z80

macro "cases16" i:ident : tactic =>
  `(tactic| (
    have h16 : $i = 0 ∨ $i = 1 ∨ $i = 2 ∨ $i = 3 ∨ $i = 4 ∨ $i = 5 ∨ $i = 6 ∨ $i = 7 ∨ $i = 8 ∨ $i = 9 ∨ $i = 10 ∨
        $i = 11 ∨ $i = 12 ∨ $i = 13 ∨ $i = 14 ∨ $i = 15 := by omega
    rcases h16 with h|h|h|h|h|h|h|h|h|h|h|h|h|h|h|h <;> subst h))

macro "cases8" i:ident : tactic =>
  `(tactic| (
    have h8 : $i = 0 ∨ $i = 1 ∨ $i = 2 ∨ $i = 3 ∨ $i = 4 ∨ $i = 5 ∨ $i = 6 ∨ $i = 7 := by omega
    rcases h8 with h|h|h|h|h|h|h|h <;> subst h))

theorem mkWord_toNat (h l : UInt8) : (mkWord h l).toNat = h.toNat * 256 + l.toNat := by
  have := h.toNat_lt; have := l.toNat_lt
  unfold mkWord
  rw [UInt16.toNat_or, UInt16.toNat_shiftLeft, UInt8.toNat_toUInt16, UInt8.toNat_toUInt16]
  show (h.toNat <<< 8 % 65536) ||| l.toNat = _
  rw [Nat.mod_eq_of_lt (by rw [Nat.shiftLeft_eq]; omega), ← Nat.shiftLeft_add_eq_or_of_lt (by omega), Nat.shiftLeft_eq]

theorem hiByte_toNat (w : UInt16) : (hiByte w).toNat = w.toNat / 256 := by
  have := w.toNat_lt
  unfold hiByte
  rw [UInt16.toNat_toUInt8, UInt16.toNat_shiftRight, UInt16.toNat_and]
  show (w.toNat &&& 0xFF00) >>> 8 % 256 = _
  rw [Nat.shiftRight_and_distrib]
  show (w.toNat >>> 8 &&& (2 ^ 8 - 1)) % 256 = _
  rw [Nat.and_two_pow_sub_one_eq_mod, Nat.shiftRight_eq_div_pow]; omega

theorem loByte_toNat (w : UInt16) : (loByte w).toNat = w.toNat % 256 := by
  unfold loByte
  rw [UInt16.toNat_toUInt8, UInt16.toNat_and]
  show (w.toNat &&& (2 ^ 8 - 1)) % 256 = _
  rw [Nat.and_two_pow_sub_one_eq_mod]; omega

theorem mkWord_hi_lo (w : UInt16) : mkWord (hiByte w) (loByte w) = w := by
  apply UInt16.toNat_inj.mp; rw [mkWord_toNat, hiByte_toNat, loByte_toNat]; omega

theorem shr8_eq_hiByte (w : UInt16) : (w >>> 8).toUInt8 = hiByte w := by
  have := w.toNat_lt
  apply UInt8.toNat_inj.mp; rw [hiByte_toNat, UInt16.toNat_toUInt8, UInt16.toNat_shiftRight]
  show w.toNat >>> 8 % 256 = _
  rw [Nat.shiftRight_eq_div_pow]; omega

theorem hiByte_mkWord (h l : UInt8) : hiByte (mkWord h l) = h := by
  have := l.toNat_lt
  apply UInt8.toNat_inj.mp; rw [hiByte_toNat, mkWord_toNat]; omega

theorem loByte_mkWord (h l : UInt8) : loByte (mkWord h l) = l := by
  have := l.toNat_lt
  apply UInt8.toNat_inj.mp; rw [loByte_toNat, mkWord_toNat]; omega

end Z80
