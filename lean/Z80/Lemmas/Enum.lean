/-
  Z80.Lemmas.Enum — kernel enumeration over complete byte / word domains:
  a Bool-valued bounded quantifier with a soundness lemma, so that `decide +kernel`
  can discharge `∀ x : UInt8, ..` and `∀ x : UInt16, ..` goals.
-/
namespace Z80

def allBelow : Nat → (Nat → Bool) → Bool
  | 0, _ => true
  | n + 1, p => p n && allBelow n p

theorem allBelow_sound {n : Nat} {p : Nat → Bool} (h : allBelow n p = true) : ∀ i, i < n → p i = true := by
  induction n with
  | zero => intro i hi; omega
  | succ n ih =>
    intro i hi
    simp only [allBelow, Bool.and_eq_true] at h
    by_cases hin : i = n
    · subst hin; exact h.1
    · exact ih h.2 i (by omega)

theorem allBelow_of {n : Nat} {p : Nat → Bool} (h : ∀ i, i < n → p i = true) : allBelow n p = true := by
  induction n with
  | zero => rfl
  | succ n ih => simp only [allBelow, Bool.and_eq_true]; exact ⟨h n (by omega), ih fun i hi => h i (by omega)⟩

/-- a symmetric relation checked on the pairs `j < i < n` holds of any two different indices below `n` -/
theorem allBelow_pairs {n : Nat} {r : Nat → Nat → Bool} (hs : ∀ i j, r i j = r j i)
    (h : allBelow n (fun i => allBelow i fun j => r j i) = true) (i j : Nat) (hi : i < n) (hj : j < n) (hij : i ≠ j) :
    r i j = true := by
  rcases Nat.lt_or_gt_of_ne hij with h1 | h1
  · exact allBelow_sound (allBelow_sound h j hj) i h1
  · rw [hs]; exact allBelow_sound (allBelow_sound h i hi) j h1

theorem forall_u8 {p : UInt8 → Bool} (h : allBelow 256 (fun i => p (UInt8.ofNat i)) = true) : ∀ x, p x = true := by
  intro x
  have := allBelow_sound h x.toNat x.toNat_lt
  simpa using this

/-- `p i x` for every entry `x` of `l`, `i` its position counted from `n`: a sweep along a table literal that visits each
    entry once (looking the entries up by index inside `allBelow` walks down the literal again for every row) -/
def allFrom {α : Type} (p : Nat → α → Bool) : Nat → List α → Bool
  | _, [] => true
  | n, x :: xs => p n x && allFrom p (n + 1) xs

theorem allFrom_sound {α : Type} {p : Nat → α → Bool} {l : List α} {n : Nat} (h : allFrom p n l = true)
    (i : Nat) (hi : i < l.length) : p (n + i) l[i] = true := by
  induction l generalizing n i with
  | nil => exact absurd hi (Nat.not_lt_zero _)
  | cons x xs ih =>
    simp only [allFrom, Bool.and_eq_true] at h
    cases i with
    | zero => exact h.1
    | succ i =>
      have := ih h.2 i (Nat.lt_of_succ_lt_succ hi)
      rwa [Nat.add_assoc, Nat.add_comm 1] at this

/-- `forall_u8` along a 256-entry table: every byte `x` with the table's entry at `x` -/
theorem forall_u8_table {α : Type} {p : UInt8 → α → Bool} (t : Array α) (d : α) (ht : t.size = 256)
    (h : allFrom (fun i x => p (UInt8.ofNat i) x) 0 t.toList = true) (x : UInt8) : p x (t.getD x.toNat d) = true := by
  have hx : x.toNat < t.size := ht ▸ x.toNat_lt
  have := allFrom_sound h x.toNat (by simpa using hx)
  simpa [Array.getD_eq_getD_getElem?, hx] using this

theorem forall_u16 {p : UInt16 → Bool} (h : allBelow 65536 (fun i => p (UInt16.ofNat i)) = true) : ∀ x, p x = true := by
  intro x
  have := allBelow_sound h x.toNat x.toNat_lt
  simpa using this

theorem forall_bool {p : Bool → Bool} (h : (p false && p true) = true) : ∀ x, p x = true := by
  intro x; cases x <;> simp_all

end Z80
