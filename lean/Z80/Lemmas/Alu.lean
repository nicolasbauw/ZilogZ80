/-
  Z80.Lemmas.Alu — bridges from the machine-integer formulations of the model (`i8`/`i16` casts,
  masks, shifts, single-bit tests) to natural number arithmetic and to the vocabulary of `Z80.Spec`
  (`Spec.bit`, `== 0` on naturals, `Spec.parity8`), so that the ALU theorems reduce to linear arithmetic:
  library facts about `toNat`; only parity, the mask 0xF0 and the `i8` shift are evaluated over all bytes.
  Then what it means for a model core to agree with the specification's output (`Agrees`), and how that is
  shown for the cores whose flags are S Z P/V of the result byte (`agrees_szp`).
-/
import Z80.Model.Alu
import Z80.Spec.Arith
import Z80.Lemmas.Enum
namespace Z80

/-! ### signed casts and the sign -/

theorem toInt8_toInt (x : UInt8) : x.toInt8.toInt = (x.toNat : Int) - 256 * ((x.toNat / 128 : Nat) : Int) := by
  have h : x.toInt8.toInt = x.toBitVec.toInt := rfl
  rw [h, BitVec.toInt_eq_toNat_cond]
  have := x.toNat_lt
  simp only [UInt8.toNat_toBitVec]
  split <;> omega

theorem toInt16_toInt (x : UInt16) : x.toInt16.toInt = (x.toNat : Int) - 65536 * ((x.toNat / 32768 : Nat) : Int) := by
  have h : x.toInt16.toInt = x.toBitVec.toInt := rfl
  rw [h, BitVec.toInt_eq_toNat_cond]
  have := x.toNat_lt
  simp only [UInt16.toNat_toBitVec]
  split <;> omega

theorem specbit (r k : Nat) : Spec.bit r k = decide (r / 2 ^ k % 2 = 1) := by
  unfold Spec.bit; rw [Nat.testBit_eq_decide_div_mod_eq]

/-- the top bit of a `w+1`-bit number as a comparison: the form in which `omega` is fed sign bits (the
    quotients of `specbit` make its case analysis about twice as dear) -/
theorem bit_top {x w : Nat} (h : x < 2 ^ (w + 1)) : Spec.bit x w = decide (2 ^ w ≤ x) := by
  have h2 : x / 2 ^ w < 2 := Nat.div_lt_of_lt_mul (by rwa [Nat.pow_succ] at h)
  have h3 : 0 < x / 2 ^ w ↔ 2 ^ w ≤ x := Nat.div_pos_iff.trans ⟨fun h => h.2, fun h => ⟨Nat.two_pow_pos w, h⟩⟩
  rw [specbit]; congr 1; apply propext
  generalize x / 2 ^ w = q at h2 h3 ⊢
  omega

theorem bit7_byte (x : UInt8) : Spec.bit x.toNat 7 = decide (128 ≤ x.toNat) := bit_top x.toNat_lt
theorem bit7_mod (x : Nat) : Spec.bit (x % 256) 7 = decide (128 ≤ x % 256) := bit_top (Nat.mod_lt _ (by decide))
theorem bit15_word (x : UInt16) : Spec.bit x.toNat 15 = decide (32768 ≤ x.toNat) := bit_top x.toNat_lt
theorem bit15_mod (x : Nat) : Spec.bit (x % 65536) 15 = decide (32768 ≤ x % 65536) := bit_top (Nat.mod_lt _ (by decide))

theorem sign8_eq (x : UInt8) : sign8 x = Spec.bit x.toNat 7 := by
  have := x.toNat_lt
  simp only [sign8, Int8.lt_iff_toInt_lt, toInt8_toInt, specbit]
  simp; omega

theorem sign16_eq (x : UInt16) : sign16 x = Spec.bit x.toNat 15 := by
  have := x.toNat_lt
  simp only [sign16, Int16.lt_iff_toInt_lt, toInt16_toInt, specbit]
  simp; omega

/-! ### zero test, carry-in -/

theorem u8_eq_zero (x : UInt8) : (x == 0) = (x.toNat == 0) := by
  rw [Bool.eq_iff_iff, beq_iff_eq, beq_iff_eq, ← UInt8.toNat_inj, UInt8.toNat_zero]

theorem u16_eq_zero (x : UInt16) : (x == 0) = (x.toNat == 0) := by
  rw [Bool.eq_iff_iff, beq_iff_eq, beq_iff_eq, ← UInt16.toNat_inj, UInt16.toNat_zero]

theorem cbit_toNat (c : Bool) : (cbit c).toNat = Spec.b2n c := by cases c <;> rfl
theorem cbit16_toNat (c : Bool) : (cbit16 c).toNat = Spec.b2n c := by cases c <;> rfl
theorem b2n_le (c : Bool) : Spec.b2n c ≤ 1 := by cases c <;> decide

/-- the carry-in as the overflow helpers (`addOvf8` ..) add it -/
theorem ite_b2n (c : Bool) : (if c then (1 : Int) else 0) = (Spec.b2n c : Nat) := by cases c <;> rfl

/-! ### single-bit tests -/

theorem and_two_pow_eq_zero (x i : Nat) : x &&& 2 ^ i = 0 ↔ x.testBit i = false := by
  constructor
  · intro h
    have := congrArg (·.testBit i) h
    simpa [Nat.testBit_two_pow] using this
  · intro h
    apply Nat.eq_of_testBit_eq
    intro j
    rw [Nat.testBit_and, Nat.testBit_two_pow, Nat.zero_testBit]
    by_cases hj : i = j
    · subst hj; rw [h]; rfl
    · simp [hj]

/-- the mask of `bit.rs` -/
theorem one_shl_toNat (b : UInt8) (hb : b.toNat < 8) : ((1 : UInt8) <<< b).toNat = 2 ^ b.toNat := by
  rw [UInt8.toNat_shiftLeft, Nat.mod_eq_of_lt hb, UInt8.toNat_one, Nat.one_shiftLeft,
    Nat.mod_eq_of_lt (Nat.pow_lt_pow_right (by decide) hb)]

/-- `bit.rs::get` is `testBit` -/
theorem bitGet_eq (v b : UInt8) (hb : b.toNat < 8) : bitGet v b = v.toNat.testBit b.toNat := by
  have h0 : (v &&& (1 : UInt8) <<< b) = 0 ↔ v.toNat.testBit b.toNat = false := by
    rw [← UInt8.toNat_inj, UInt8.toNat_and, one_shl_toNat b hb, UInt8.toNat_zero, and_two_pow_eq_zero]
  rw [Bool.eq_iff_iff, bitGet, bne_iff_ne, Ne, h0, Bool.not_eq_false]

theorem bitGet7_eq (x : UInt8) : bitGet x 7 = decide (128 ≤ x.toNat) := by
  have := x.toNat_lt
  simp [bitGet_eq x 7 (by decide), Nat.testBit_eq_decide_div_mod_eq]; omega

theorem bitGet0_eq (x : UInt8) : bitGet x 0 = decide (x.toNat % 2 = 1) := by
  simp [bitGet_eq x 0 (by decide)]

/-- bit 7 as the carry out of a left shift (`Spec.rlc` ..) -/
theorem carry7 (n : UInt8) : bitGet n 7 = decide (n.toNat / 128 = 1) := by
  have := n.toNat_lt
  rw [bitGet7_eq]; congr 1; apply propext; omega

theorem b2n_bit7 (n : UInt8) : Spec.b2n (bitGet n 7) = n.toNat / 128 := by
  have := n.toNat_lt
  by_cases h : 128 ≤ n.toNat <;> simp [bitGet7_eq, Spec.b2n, h] <;> omega

theorem b2n_bit0 (n : UInt8) : Spec.b2n (bitGet n 0) = n.toNat % 2 := by
  by_cases h : n.toNat % 2 = 1 <;> simp [bitGet0_eq, Spec.b2n, h] <;> omega

/-! ### masks, shifts, OR of disjoint bit ranges -/

theorem and15 (x : Nat) : x &&& 15 = x % 16 := Nat.and_two_pow_sub_one_eq_mod x 4
theorem and4095 (x : Nat) : x &&& 4095 = x % 4096 := Nat.and_two_pow_sub_one_eq_mod x 12

theorem or_eq_add {x y : Nat} (i : Nat) (hx : x % 2 ^ i = 0) (hy : y < 2 ^ i) : x ||| y = x + y := by
  have : x = (x / 2 ^ i) <<< i := by rw [Nat.shiftLeft_eq, Nat.div_mul_cancel (Nat.dvd_of_mod_eq_zero hx)]
  rw [this, Nat.shiftLeft_add_eq_or_of_lt hy]

theorem shl1 (n : UInt8) : (n <<< 1).toNat = 2 * n.toNat % 256 := by
  simp [UInt8.toNat_shiftLeft, Nat.shiftLeft_eq]; omega

theorem shr1 (n : UInt8) : (n >>> 1).toNat = n.toNat / 2 := by
  simp [UInt8.toNat_shiftRight, Nat.shiftRight_eq_div_pow]

theorem shl4 (x : UInt8) : (x <<< 4).toNat = x.toNat % 16 * 16 := by
  simp [UInt8.toNat_shiftLeft, Nat.shiftLeft_eq]; omega

theorem shr4 (x : UInt8) : (x >>> 4).toNat = x.toNat / 16 := by
  simp [UInt8.toNat_shiftRight, Nat.shiftRight_eq_div_pow]

theorem lowNibble (x : UInt8) : (x &&& 0x0F).toNat = x.toNat % 16 := by
  rw [UInt8.toNat_and]; exact and15 _

theorem highNibble (x : UInt8) : (x &&& 0xF0).toNat = x.toNat / 16 * 16 := by
  have := forall_u8 (p := fun x => (x &&& 0xF0).toNat == x.toNat / 16 * 16) (by decide +kernel) x
  simpa using this

/-- a byte put together from a high and a low nibble -/
theorem nibbles_toNat {hi lo : UInt8} {H L : Nat} (hh : hi.toNat = H * 16) (hl : lo.toNat = L) (hL : L < 16) :
    (hi ||| lo).toNat = H * 16 + L := by
  rw [UInt8.toNat_or, or_eq_add 4 (by omega) (by omega), hh, hl]

/-- `(n as i8 >> 1) as u8`: arithmetic shift, bit 7 kept -/
theorem sar1 (n : UInt8) : (n.toInt8 >>> 1).toUInt8.toNat = n.toNat / 2 + 128 * (n.toNat / 128) := by
  have := forall_u8 (p := fun n => (n.toInt8 >>> 1).toUInt8.toNat == n.toNat / 2 + 128 * (n.toNat / 128)) (by decide +kernel) n
  simpa using this

/-! ### parity -/

theorem parity_eq (x : UInt8) : parityEven x = Spec.parity8 x.toNat := by
  have := forall_u8 (p := fun x => parityEven x == Spec.parity8 x.toNat) (by decide +kernel) x
  simpa using this

/-! ### agreement with the specification -/


/-- result and the six documented flags agree with the specification's output; the two unused bits are
    passed through from `f` -/
def Agrees (o : Spec.Out) (res : UInt8 × Flags) (f : Flags) : Prop :=
  res.1.toNat = o.r ∧ (res.2.s = true ↔ o.s = true) ∧ (res.2.z = true ↔ o.z = true) ∧ (res.2.h = true ↔ o.h = true) ∧
  (res.2.p = true ↔ o.pv = true) ∧ (res.2.n = true ↔ o.n = true) ∧ (res.2.c = true ↔ o.c = true) ∧
  res.2.b5 = f.b5 ∧ res.2.b3 = f.b3

/-- the same statement with plain equalities of flag values -/
theorem Agrees.eqs {o : Spec.Out} {res : UInt8 × Flags} {f : Flags} (h : Agrees o res f) :
    res.1.toNat = o.r ∧ res.2.s = o.s ∧ res.2.z = o.z ∧ res.2.h = o.h ∧ res.2.p = o.pv ∧ res.2.n = o.n ∧ res.2.c = o.c ∧
    res.2.b5 = f.b5 ∧ res.2.b3 = f.b3 := by
  simpa only [Agrees, ← Bool.eq_iff_iff] using h

/-- a result byte `r` with S Z P/V taken from it, N = 0, and H and C as given: the flag tail shared by the
    logic operations (`Spec.logic`) and the CB rotates and shifts (`Alu.szp`, `Spec.shifted`) -/
theorem agrees_szp {r : UInt8} {R : Nat} {c c' : Bool} (hr : r.toNat = R) (hc : c = c') (h : Bool) (f : Flags) :
    Agrees { r := R, s := Spec.bit R 7, z := R == 0, h := h, pv := Spec.parity8 R, n := false, c := c' }
      (r, { f with z := r == 0, s := sign8 r, p := parityEven r, h := h, c := c, n := false }) f := by
  subst hr hc
  simp only [Agrees, sign8_eq, u8_eq_zero, parity_eq]
  simp

end Z80
