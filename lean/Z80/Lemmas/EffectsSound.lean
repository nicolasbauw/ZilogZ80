/-
  Z80.Lemmas.EffectsSound — `exec` agrees with the second semantics `Spec.effects` on every register
  C01 names and on the whole bus, for every instruction where the manual defines a single operation.
  Per instruction: the shape of the post-state (Lemmas/Frame), the specification's operands rewritten to the
  model's, and the value law of C02.
-/
import Z80.Lemmas.Effects
import Z80.Lemmas.Frame
import Z80.Props.C02
import Z80.Props.C09
namespace Z80
open Spec

theorem assign_nil (g : RegName → UInt16) (r : RegName) : assign [] g r = g r := rfl

theorem assign_cons (r' : RegName) (v : UInt16) (l) (g : RegName → UInt16) (r : RegName) :
    assign ((r', v) :: l) g r = if r' = r then v else assign l g r := by
  simp only [assign, List.find?]
  by_cases h : r' = r
  · simp [h]
  · have : (r' == r) = false := by simpa using h
    simp [this, h]

/-! ### the specification's operands are the model's -/

theorem u8_toNat16 (v : UInt8) : v.toUInt16.toNat = v.toNat := by simp

theorem getReg_a_toNat (x : Arch) : (getReg x .a).toNat = x.reg.a.toNat := u8_toNat16 _
theorem getReg_b_toNat (x : Arch) : (getReg x .b).toNat = x.reg.b.toNat := u8_toNat16 _
theorem memV_toNat (x : Arch) (a : UInt16) : (memV x a).toNat = (x.bus.readByte a).toNat := u8_toNat16 _
theorem locV_toNat (x : Arch) (l : Loc8) : (locV x l).toNat = (x.read8 l).toNat := by rw [locV_eq, u8_toNat16]
theorem opV_toNat (x : Arch) (o : Op8) : (opV x o).toNat = (x.readOp o).toNat := by rw [opV_eq, u8_toNat16]

/-! ### values: core result = specified number -/

theorem alu_toNat (op : AluOp) (a n : UInt8) (f : Flags) :
    (aluApply op a n f).1.toNat = aluV op a.toNat n.toNat (b2n f.c) := by
  cases op
  · exact (C02_add a n f).1
  · exact (C02_adc a n f).1
  · exact (C02_sub a n f).1
  · exact (C02_sbc a n f).1
  · exact (C02_and a n f).1
  · exact (C02_xor a n f).1
  · exact (C02_or a n f).1
  · rfl

theorem alu_val (op : AluOp) (a n : UInt8) (f : Flags) :
    ofN (aluV op a.toNat n.toNat (b2n f.c)) = (aluApply op a n f).1.toUInt16 := ofN_of_toNat _ _ (alu_toNat op a n f)

theorem rot_val (op : RotOp) (n : UInt8) (f : Flags) :
    ofN (rotV op n.toNat (b2n f.c)) = (rotApply op n f).1.toUInt16 := by
  apply ofN_of_toNat
  cases op
  · exact (C02_rlc n f).1
  · exact (C02_rrc n f).1
  · exact (C02_rl n f).1
  · exact (C02_rr n f).1
  · exact (C02_sla n f).1
  · exact (C02_sra n f).1
  · exact (C02_sll n f).1
  · exact (C02_srl n f).1

theorem bitSet_val (v b : UInt8) (hb : b.toNat < 8) : ofN (v.toNat ||| 2 ^ b.toNat) = (bitSet v b).toUInt16 :=
  ofN_of_toNat _ _ (by rw [bitSet, UInt8.toNat_or, one_shl_toNat b hb])

theorem bitReset_val (v b : UInt8) (hb : b.toNat < 8) : ofN (v.toNat &&& (255 - 2 ^ b.toNat)) = (bitReset v b).toUInt16 :=
  ofN_of_toNat _ _ (by rw [bitReset, UInt8.toNat_and, UInt8.toNat_not, one_shl_toNat b hb]; rfl)

/-! ### memory -/

theorem store_nil (b : Bus) : store [] b = b := rfl

theorem write8_mem_bus (x : Arch) (m : MemRef) (v : UInt8) : (x.write8 (.mem m) v).bus = x.bus.writeByte (x.addrOf m) v := rfl
theorem write8_reg_bus (x : Arch) (q : R8) (v : UInt8) : (x.write8 (.reg q) v).bus = x.bus := rfl

/-! ### the single block steps -/

theorem ldStep_sound (up : Bool) (ret : UInt16) (x : Arch) :
    (∀ r, getReg (ldStep up x) r = assign (effects (if up then .ldi else .ldd) ret x).regs (getReg x) r) ∧
    (ldStep up x).bus = store (effects (if up then .ldi else .ldd) ret x).mem x.bus := by
  have hm : (ldStep up x).bus = store [(pairV x .de, memV x (pairV x .hl))] x.bus :=
    store_byte _ _ _ (pairV_eq x .de) (by rw [pairV_eq]; rfl)
  cases up <;> exact ⟨getReg_ldStep _ x, hm⟩

theorem cpStep_sound (up : Bool) (ret : UInt16) (x : Arch) (r : RegName) :
    getReg (cpStep up x) r = assign (effects (if up then .cpi else .cpd) ret x).regs (getReg x) r := by
  cases up <;> exact getReg_cpStep _ x r

/-! ### every defined instruction -/

theorem effects_sound (i : Instr) (len : UInt16) (x : Arch) (hd : defined i x) :
    (∀ r, getReg (exec i len x) r = assign (effects i (x.reg.pc + len) x).regs (getReg x) r) ∧
    (exec i len x).bus = store (effects i (x.reg.pc + len) x).mem x.bus := by
  cases i
  case ldir | lddr | cpir | cpdr => exact hd.elim
  case nop | halt | di | ei | im | ldRA | ccf | scf | bit | jp | jr | jpR | unknown =>
    exact ⟨fun r => frame_regs _ len x r List.not_mem_nil, rfl⟩
  case jpcc | jrcc =>
    exact ⟨fun r => frame_regs _ len x r List.not_mem_nil, ite_ind (P := fun y : Arch => y.bus = x.bus) rfl rfl⟩
  case st16m nn src => exact ⟨fun r => frame_regs _ len x r List.not_mem_nil, store_word _ nn _ (pairV_eq x src)⟩
  case ldAI | ldAR => exact ⟨getReg_acc x _ _ _ _ rfl, rfl⟩
  case ldIA => exact ⟨getReg_i x _ _, rfl⟩
  case ld16 => exact ⟨getReg_set16 x _ _ _ _ _ rfl, rfl⟩
  case ld16m dst nn => exact ⟨getReg_set16 x _ _ _ _ _ (wordAt_eq x nn), rfl⟩
  case ldSP src => exact ⟨getReg_set16 x .sp (x.reg.get16 src) _ _ _ (pairV_eq x src), rfl⟩
  case inc16 p => exact ⟨getReg_set16 x _ _ _ _ _ (by rw [pairV_eq]), rfl⟩
  case dec16 p => exact ⟨getReg_set16 x _ _ _ _ _ (by rw [pairV_eq]), rfl⟩
  case exSP p => exact ⟨getReg_set16 x _ _ _ _ _ (wordAt_eq x _), store_word _ _ _ (pairV_eq x p)⟩
  case push p => exact ⟨getReg_set16 x .sp (x.reg.sp - 2) _ _ _ rfl, store_word _ _ _ (pairV_eq x p)⟩
  case call | rst => exact ⟨getReg_set16 x .sp (x.reg.sp - 2) _ _ _ rfl, store_word _ _ _ rfl⟩
  case ret | reti => exact ⟨getReg_set16 x .sp (x.reg.sp + 2) _ _ _ rfl, rfl⟩
  case retn => exact ⟨fun r => (getReg_ctl _ _ _ _ _ _ r).trans (getReg_set16 x .sp (x.reg.sp + 2) _ _ _ rfl r), rfl⟩
  case callcc cc nn =>
    show (∀ r, getReg (if condHolds x.reg.flags cc then _ else _) r =
        assign (Eff.regs (if holds x.reg.flags cc then _ else _)) _ r) ∧
      Arch.bus (if condHolds x.reg.flags cc then _ else _) = store (Eff.mem (if holds x.reg.flags cc then _ else _)) _
    rw [holds_eq]; split
    · exact ⟨getReg_set16 x .sp (x.reg.sp - 2) _ _ _ rfl, store_word _ _ _ rfl⟩
    · exact ⟨getReg_setPC x _, rfl⟩
  case retcc cc =>
    show (∀ r, getReg (if condHolds x.reg.flags cc then _ else _) r =
        assign (Eff.regs (if holds x.reg.flags cc then _ else _)) _ r) ∧
      Arch.bus (if condHolds x.reg.flags cc then _ else _) = store (Eff.mem (if holds x.reg.flags cc then _ else _)) _
    rw [holds_eq]; split
    · exact ⟨getReg_set16 x .sp (x.reg.sp + 2) _ _ _ rfl, rfl⟩
    · exact ⟨getReg_setPC x _, rfl⟩
  case pop p =>
    have e : getReg x.popWord.2 = assign [(.sp, getReg x .sp + 2)] (getReg x) :=
      funext (getReg_set16 x .sp (x.reg.sp + 2) _ _ _ rfl)
    exact ⟨fun r => (getReg_set16 x.popWord.2 p _ _ _ _ (wordAt_eq x _) r).trans (e ▸ (assign_append _ _ _ r).symm), rfl⟩
  case exDEHL => exact ⟨getReg_exDEHL len _ x, rfl⟩
  case exx => exact ⟨getReg_exx len _ x, rfl⟩
  case exAF =>
    exact ⟨getReg_exAF len x (by rw [fByte_eq]; exact congrArg _ ((C09_flags_toByte_ofByte _).trans (loByte_mkWord _ _)).symm), rfl⟩
  case ldi => exact ⟨fun r => (getReg_setPC _ _ r).trans ((ldStep_sound true _ x).1 r), (ldStep_sound true _ x).2⟩
  case ldd => exact ⟨fun r => (getReg_setPC _ _ r).trans ((ldStep_sound false _ x).1 r), (ldStep_sound false _ x).2⟩
  case cpi => exact ⟨fun r => (getReg_setPC _ _ r).trans (cpStep_sound true _ x r), rfl⟩
  case cpd => exact ⟨fun r => (getReg_setPC _ _ r).trans (cpStep_sound false _ x r), rfl⟩
  case ld8 dst src => exact write8_sound x dst _ _ (opV_eq x src)
  case inc8 l =>
    exact write8_sound' x _ l _ _ (by rw [locV_toNat]; exact ofN_of_toNat _ _ (C02_inc _ x.reg.flags).1)
  case dec8 l =>
    exact write8_sound' x _ l _ _ (by rw [locV_toNat]; exact ofN_of_toNat _ _ (C02_dec _ x.reg.flags).1)
  case rot op l =>
    exact write8_sound' x _ l _ _ (by rw [locV_toNat]; exact rot_val op _ x.reg.flags)
  case set b l =>
    exact write8_sound x l _ _ (by rw [locV_toNat]; exact bitSet_val _ b hd)
  case res b l =>
    exact write8_sound x l _ _ (by rw [locV_toNat]; exact bitReset_val _ b hd)
  case djnz =>
    have hv : ofN (subW 8 (getReg x .b).toNat 1 0).r = (x.reg.b - 1).toUInt16 := by
      rw [getReg_b_toNat]; exact ofN_of_toNat _ _ (C02_dec _ {}).1
    exact ite_ind (P := fun y : Arch => (∀ r, getReg y r = assign [(.b, _)] (getReg x) r) ∧ y.bus = x.bus)
      (write8_sound x (.reg .b) _ _ hv) (write8_sound x (.reg .b) _ _ hv)
  case alu op src =>
    cases op
    case cp => exact ⟨fun r => frame_regs _ len x r List.not_mem_nil, rfl⟩
    all_goals exact ⟨getReg_acc x _ _ _ _ (by rw [getReg_a_toNat, opV_toNat]; exact alu_val _ _ _ x.reg.flags), rfl⟩
  case cpl =>
    exact ⟨getReg_acc x _ _ _ _ (by rw [getReg_a_toNat]; exact ofN_of_toNat _ _ (C02_cpl_ccf_scf len x).1.1), rfl⟩
  case neg =>
    exact ⟨getReg_acc x _ _ _ _ (by rw [getReg_a_toNat]; exact ofN_of_toNat _ _ (C02_neg _ x.reg.flags).1), rfl⟩
  case rlca =>
    exact ⟨getReg_acc x _ _ _ _ (by rw [getReg_a_toNat]; exact ofN_of_toNat _ _ (C02_rot_acc _ x.reg.flags).1.1), rfl⟩
  case rrca =>
    exact ⟨getReg_acc x _ _ _ _ (by rw [getReg_a_toNat]; exact ofN_of_toNat _ _ (C02_rot_acc _ x.reg.flags).2.1.1), rfl⟩
  case rla =>
    exact ⟨getReg_acc x _ _ _ _ (by rw [getReg_a_toNat]; exact ofN_of_toNat _ _ (C02_rot_acc _ x.reg.flags).2.2.1.1), rfl⟩
  case rra =>
    exact ⟨getReg_acc x _ _ _ _ (by rw [getReg_a_toNat]; exact ofN_of_toNat _ _ (C02_rot_acc _ x.reg.flags).2.2.2.1), rfl⟩
  case rld =>
    refine ⟨getReg_acc x _ _ _ _ ?_, store_byte _ _ _ (pairV_eq x .hl) ?_⟩
    all_goals rw [getReg_a_toNat, memV_toNat, pairV_eq]
    · exact ofN_of_toNat _ _ (C02_rld _ _ x.reg.flags).1
    · exact ofN_of_toNat _ _ (C02_rld _ _ x.reg.flags).2.1
  case rrd =>
    refine ⟨getReg_acc x _ _ _ _ ?_, store_byte _ _ _ (pairV_eq x .hl) ?_⟩
    all_goals rw [getReg_a_toNat, memV_toNat, pairV_eq]
    · exact ofN_of_toNat _ _ (C02_rrd _ _ x.reg.flags).1
    · exact ofN_of_toNat _ _ (C02_rrd _ _ x.reg.flags).2.1
  case daa =>
    obtain ⟨⟨add, c'⟩, hv⟩ := Option.isSome_iff_exists.mp hd
    have e : effects .daa (x.reg.pc + len) x = { regs := [(.a, ofN (((getReg x .a).toNat + add) % 256))] } :=
      show (match daaTable _ _ _ _ _ with | some (add, _) => _ | none => _) = _ by rw [hv]
    rw [getReg_a_toNat] at hv e
    rw [e]
    exact ⟨getReg_acc x _ _ _ _ (ofN_of_toNat _ _ (C02_daa _ x.reg.flags add c' hv).1), rfl⟩
  case add16 dst src =>
    exact ⟨getReg_set16 x _ _ _ _ _ (by rw [pairV_eq, pairV_eq]; exact ofN_of_toNat16 _ _ (C02_add16 _ _ x.reg.flags).1), rfl⟩
  case adc16 src =>
    exact ⟨getReg_set16 x .hl _ _ _ _ (by rw [pairV_eq, pairV_eq]; exact ofN_of_toNat16 _ _ (C02_adc16 _ _ x.reg.flags).1), rfl⟩
  case sbc16 src =>
    exact ⟨getReg_set16 x .hl _ _ _ _ (by rw [pairV_eq, pairV_eq]; exact ofN_of_toNat16 _ _ (C02_sbc16 _ _ x.reg.flags).1), rfl⟩

end Z80
