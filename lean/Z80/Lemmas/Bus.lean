/-
  Z80.Lemmas.Bus — size and ROM declaration survive writes; what a read returns after a byte write
  (`readByte_writeByte`) and after a word write (`readByte_writeWord`), with their corollaries.
-/
import Z80.Lemmas.Word
namespace Z80
namespace Bus

@[simp] theorem writeByte_rom (b : Bus) (a : UInt16) (v : UInt8) : (b.writeByte a v).rom = b.rom := by
  unfold writeByte; split <;> rfl

@[simp] theorem writeByte_size (b : Bus) (a : UInt16) (v : UInt8) : (b.writeByte a v).mem.size = b.mem.size := by
  unfold writeByte; split <;> simp

@[simp] theorem writeByte_inRom (b : Bus) (a : UInt16) (v : UInt8) (x : UInt16) :
    (b.writeByte a v).inRom x = b.inRom x := by
  unfold inRom; rw [writeByte_rom]

/-- An address is writable when it is at or below the top address and outside the ROM range. -/
def writable (b : Bus) (a : UInt16) : Prop := a.toNat < b.mem.size ∧ b.inRom a = false

instance (b : Bus) (a : UInt16) : Decidable (b.writable a) := by unfold writable; exact inferInstance

theorem writable_writeByte (b : Bus) (a x : UInt16) (v : UInt8) : (b.writeByte a v).writable x ↔ b.writable x := by
  unfold writable; rw [writeByte_size, writeByte_inRom]

theorem readByte_writeByte (b : Bus) (a x : UInt16) (v : UInt8) :
    (b.writeByte a v).readByte x = if x = a ∧ b.writable a then v else b.readByte x := by
  unfold writeByte readByte writable
  by_cases hr : b.inRom a = true
  · simp [hr]
  · simp only [hr, Bool.false_eq_true, ↓reduceIte] at *
    rw [Array.getD_eq_getD_getElem?, Array.getElem?_setIfInBounds, Array.getD_eq_getD_getElem?]
    by_cases hx : x = a
    · subst hx
      by_cases hs : x.toNat < b.mem.size <;> simp [hs]
    · have : a.toNat ≠ x.toNat := fun h => hx (UInt16.toNat_inj.mp h.symm)
      simp [hx, this]

theorem readByte_writeByte_same (b : Bus) (a : UInt16) (v : UInt8) (h : b.writable a) :
    (b.writeByte a v).readByte a = v := by
  rw [readByte_writeByte, if_pos ⟨rfl, h⟩]

theorem readByte_writeByte_other (b : Bus) (a x : UInt16) (v : UInt8) (h : x ≠ a) :
    (b.writeByte a v).readByte x = b.readByte x := by
  rw [readByte_writeByte, if_neg (fun e => h e.1)]

theorem readByte_writeByte_rom (b : Bus) (a x : UInt16) (v : UInt8) (h : b.inRom x = true) :
    (b.writeByte a v).readByte x = b.readByte x := by
  rw [readByte_writeByte, if_neg]
  rintro ⟨rfl, hw⟩
  exact Bool.eq_false_iff.mp hw.2 h

theorem readByte_above_top (b : Bus) (a : UInt16) (h : b.mem.size ≤ a.toNat) : b.readByte a = 0 := by
  unfold readByte; rw [Array.getD_eq_getD_getElem?]; simp [h]

theorem writeByte_above_top (b : Bus) (a : UInt16) (v : UInt8) (h : b.mem.size ≤ a.toNat) :
    b.writeByte a v = b := by
  unfold writeByte; split
  · rfl
  · have : b.mem.setIfInBounds a.toNat v = b.mem := by
      unfold Array.setIfInBounds; simp [Nat.not_lt.mpr h]
    rw [this]

theorem writeByte_in_rom (b : Bus) (a : UInt16) (v : UInt8) (h : b.inRom a = true) :
    b.writeByte a v = b := by
  unfold writeByte; simp [h]

/-! ### words -/

@[simp] theorem writeWord_rom (b : Bus) (a : UInt16) (w : UInt16) : (b.writeWord a w).rom = b.rom := by
  unfold writeWord; simp

@[simp] theorem writeWord_size (b : Bus) (a : UInt16) (w : UInt16) : (b.writeWord a w).mem.size = b.mem.size := by
  unfold writeWord; simp

@[simp] theorem writeWord_inRom (b : Bus) (a : UInt16) (w : UInt16) (x : UInt16) :
    (b.writeWord a w).inRom x = b.inRom x := by
  unfold writeWord; simp

theorem writable_writeWord (b : Bus) (a w x : UInt16) : (b.writeWord a w).writable x ↔ b.writable x := by
  unfold writable; rw [writeWord_size, writeWord_inRom]

/-- each half of a word write lands exactly when its own address is writable -/
theorem readByte_writeWord (b : Bus) (a x w : UInt16) :
    (b.writeWord a w).readByte x =
      if x = a + 1 ∧ b.writable (a + 1) then hiByte w
      else if x = a ∧ b.writable a then loByte w else b.readByte x := by
  unfold writeWord
  rw [readByte_writeByte, readByte_writeByte, shr8_eq_hiByte]
  simp only [writable_writeByte]

theorem readByte_writeWord_rom (b : Bus) (a x : UInt16) (w : UInt16) (h : b.inRom x = true) :
    (b.writeWord a w).readByte x = b.readByte x := by
  unfold writeWord
  rw [readByte_writeByte_rom _ _ _ _ (by simpa using h), readByte_writeByte_rom _ _ _ _ h]

theorem readByte_writeWord_other (b : Bus) (a x : UInt16) (w : UInt16) (h1 : x ≠ a) (h2 : x ≠ a + 1) :
    (b.writeWord a w).readByte x = b.readByte x := by
  unfold writeWord
  rw [readByte_writeByte_other _ _ _ _ h2, readByte_writeByte_other _ _ _ _ h1]

theorem ne_add_one (a : UInt16) : a ≠ a + 1 := by
  intro h; have := congrArg UInt16.toNat h; simp [UInt16.toNat_add] at this; omega

theorem sub_two_add_one (sp : UInt16) : sp - 2 + 1 = sp - 1 := by
  rw [UInt16.sub_eq_add_neg, UInt16.add_assoc, UInt16.sub_eq_add_neg]; rfl

theorem readByte_writeWord_lo (b : Bus) (a w : UInt16) (h : b.writable a) :
    (b.writeWord a w).readByte a = loByte w := by
  rw [readByte_writeWord, if_neg (fun h => ne_add_one a h.1), if_pos ⟨rfl, h⟩]

theorem readByte_writeWord_hi (b : Bus) (a w : UInt16) (h : b.writable (a + 1)) :
    (b.writeWord a w).readByte (a + 1) = hiByte w := by
  rw [readByte_writeWord, if_pos ⟨rfl, h⟩]

theorem readWord_writeWord (b : Bus) (a w : UInt16) (h0 : b.writable a) (h1 : b.writable (a + 1)) :
    (b.writeWord a w).readWord a = w := by
  unfold readWord
  rw [readByte_writeWord_hi b a w h1, readByte_writeWord_lo b a w h0, mkWord_hi_lo]

end Bus
end Z80
