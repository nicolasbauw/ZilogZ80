/-
  Z80.Lemmas.Step — the shape of a step: a halted CPU with nothing to accept idles, every other step dispatches on the
  state `preDispatch` prepares; with no request pending and no halt that is just "fetch, decode, execute".
  What a step does to the request latches: no instruction touches the NMI latch, and no request survives a step that
  is not idle.
-/
import Z80.Model.Step
import Z80.Lemmas.Block
namespace Z80


theorem stepArch_idle (a : Arch) (h : (a.halt && !a.wakes) = true) : stepArch a = (a, 4, none) := by
  simp only [stepArch, h, ↓reduceIte]

theorem stepArch_running (a : Arch) (h : (a.halt && !a.wakes) = false) :
    stepArch a = ((dispatch (preDispatch a)).1, (dispatch (preDispatch a)).2.1, some (dispatch (preDispatch a)).2.2) := by
  simp only [stepArch, h, Bool.false_eq_true, ↓reduceIte]

/-- leaving a HALT moves PC past it and changes nothing else -/
theorem wake_eq (a : Arch) :
    wake a = { a with reg := { a.reg with pc := if a.halt then a.reg.pc + 1 else a.reg.pc }, halt := false } := by
  unfold wake
  cases h : a.halt
  · simp only [Bool.false_eq_true, ↓reduceIte]; rw [← h]
  · rfl

/-! ### the interrupt prologue `preDispatch`: its three cases -/

/-- a pending NMI is taken whatever else is pending (and the maskable request is dropped) -/
theorem preDispatch_nmi_taken (a : Arch) (hn : a.nmi = true) :
    preDispatch a =
      { (((wake a).pushWord (wake a).reg.pc).setPC 0x0066) with
          iff2 := a.iff1, iff1 := false, nmi := false, int := none } := by
  simp [preDispatch, takeNmi, takeInt, acceptNmi, Arch.setPC, Arch.pushWord, wake_eq, hn]

/-- no NMI, interrupts enabled, a request latched: it is accepted in the state in which a HALT has been left behind -/
theorem preDispatch_int_taken (a : Arch) (b : UInt8) (hn : a.nmi = false) (hi : a.iff1 = true) (hb : a.int = some b) :
    preDispatch a = acceptInt (wake a) b := by
  simp [preDispatch, takeNmi, takeInt, wake_eq, hi, hn, hb]

/-- otherwise nothing is accepted, and a masked request is not seen by the instruction -/
theorem preDispatch_none (a : Arch) (hn : a.nmi = false) (hi : a.iff1 = false ∨ a.int = none) :
    preDispatch a = { wake a with int := none } := by
  rcases hi with hi | hi <;> simp [preDispatch, takeNmi, takeInt, wake_eq, hi, hn]

/-- acceptance in any mode clears both enables and touches neither the halt latch nor the NMI latch -/
theorem acceptInt_ctl (a : Arch) (b : UInt8) :
    (acceptInt a b).iff1 = false ∧ (acceptInt a b).iff2 = false ∧ (acceptInt a b).halt = a.halt ∧
    (acceptInt a b).nmi = a.nmi := by
  unfold acceptInt; split
  · exact ⟨rfl, rfl, rfl, rfl⟩
  · split <;> exact ⟨rfl, rfl, rfl, rfl⟩

theorem effLen_none (d : Decoded) : effLen d none = d.len := by
  unfold effLen; split
  · rename_i h; cases h
  · rfl

/-- nothing pending, not halted -/
def Arch.quiet (a : Arch) : Prop := a.halt = false ∧ a.nmi = false ∧ a.int = none

theorem preDispatch_quiet (a : Arch) (h : a.quiet) : preDispatch a = a := by
  obtain ⟨reg, alt, bus, halt, int, nmi, im, iff1, iff2⟩ := a
  obtain ⟨rfl, rfl, rfl⟩ : halt = false ∧ nmi = false ∧ int = none := h
  cases iff1 <;> rfl

theorem stepArch_quiet (a : Arch) (h : a.quiet) :
    stepArch a = ((dispatch a).1, (dispatch a).2.1, some (dispatch a).2.2) := by
  rw [stepArch_running a (by simp [h.1]), preDispatch_quiet a h]

/-- the instruction executed by a quiet step is the one encoded at PC -/
theorem dispatch_quiet (a : Arch) (h : a.quiet) :
    (dispatch a).1 = { exec (decode a.bus a.reg.pc (a.bus.readByte a.reg.pc)).instr
                         (decode a.bus a.reg.pc (a.bus.readByte a.reg.pc)).len a with int := none } := by
  have hf : firstByte a = a.bus.readByte a.reg.pc := by simp only [firstByte, h.2.2]
  simp only [dispatch, hf, h.2.2, effLen_none]

/-! ### the request latches -/


@[simp] theorem Arch.setPC_nmi (a : Arch) (pc : UInt16) : (a.setPC pc).nmi = a.nmi := rfl
@[simp] theorem Arch.setPC_int (a : Arch) (pc : UInt16) : (a.setPC pc).int = a.int := rfl
@[simp] theorem Arch.setFlags_nmi (a : Arch) (f : Flags) : (a.setFlags f).nmi = a.nmi := rfl
@[simp] theorem Arch.setA_nmi (a : Arch) (v : UInt8) : (a.setA v).nmi = a.nmi := rfl
@[simp] theorem Arch.write8_nmi (a : Arch) (l : Loc8) (v : UInt8) : (a.write8 l v).nmi = a.nmi := by
  cases l <;> rfl
@[simp] theorem Arch.pushWord_nmi (a : Arch) (w : UInt16) : (a.pushWord w).nmi = a.nmi := rfl
@[simp] theorem Arch.popWord_nmi (a : Arch) : a.popWord.2.nmi = a.nmi := rfl
@[simp] theorem ldStep_nmi (up : Bool) (a : Arch) : (ldStep up a).nmi = a.nmi := rfl
@[simp] theorem cpStep_nmi (up : Bool) (a : Arch) : (cpStep up a).nmi = a.nmi := rfl

/-- no instruction raises or clears the NMI latch -/
theorem exec_nmi (i : Instr) (len : UInt16) (a : Arch) : (exec i len a).nmi = a.nmi := by
  cases i <;> simp only [exec.eq_def, Arch.setPC_nmi, Arch.write8_nmi, Arch.pushWord_nmi, Arch.setFlags_nmi, Arch.setA_nmi,
    ldStep_nmi, cpStep_nmi, ldRepeat_proj (·.nmi) _ (ldStep_nmi _), cpRepeat_proj (·.nmi) _ (cpStep_nmi _)]
  all_goals first
    | rfl
    | (split <;> rfl)

theorem takeInt_nmi (a : Arch) : (takeInt a).nmi = a.nmi := by
  unfold takeInt; split
  · exact (acceptInt_ctl _ _).2.2.2
  · rfl

theorem preDispatch_nmi (a : Arch) : (preDispatch a).nmi = false := by
  unfold preDispatch; rw [takeInt_nmi]
  unfold takeNmi; split
  · rfl
  · rename_i h; simpa using h

/-- no request survives a step that is not a halted idle step -/
theorem stepArch_latches (a : Arch) (h : (a.halt && !a.wakes) = false) :
    (stepArch a).1.int = none ∧ (stepArch a).1.nmi = false := by
  rw [stepArch_running a h]
  exact ⟨rfl, (exec_nmi _ _ _).trans (preDispatch_nmi a)⟩

end Z80
