/-
  Z80.Lemmas.Pc — where PC goes: sequential instructions, sign extension of displacements.
-/
import Z80.Model.Dasm
import Z80.Lemmas.Enum
namespace Z80

/-- instructions that may load PC with something other than `pc + length` (HALT keeps it) -/
def transfers : Instr → Bool
  | .jp _ | .jpcc _ _ | .jr _ | .jrcc _ _ | .jpR _ | .djnz _ | .call _ | .callcc _ _
  | .ret | .retcc _ | .reti | .retn | .rst _ | .halt => true
  | _ => false

@[simp] theorem Arch.setPC_pc (a : Arch) (pc : UInt16) : (a.setPC pc).reg.pc = pc := rfl

/-- every non-transfer instruction leaves PC at the instruction's address plus its length -/
theorem exec_pc_seq (i : Instr) (len : UInt16) (a : Arch) (h : transfers i = false) :
    (exec i len a).reg.pc = a.reg.pc + len := by
  -- for a transfer `h` is `true = false`; every other case of `exec` ends by assigning `pc + len`
  cases i <;> first | contradiction | rfl

/-- sign extension of a displacement byte to 16 bits -/
def sext (e : UInt8) : UInt16 := e.toInt8.toInt16.toUInt16

/-- byte-level bridge, 256 cases: the code's two branches (negated `signedToAbs e` when bit 7 is set, else `e`) are
    the sign extension -/
theorem sext_eq (e : UInt8) : sext e = if bitGet e 7 then -(signedToAbs e).toUInt16 else e.toUInt16 :=
  eq_of_beq (forall_u8 (p := fun e => sext e == if bitGet e 7 then -(signedToAbs e).toUInt16 else e.toUInt16)
    (by decide +kernel) e)

/-- sign extension as a number, 256 cases: `e` counts forwards below 128, backwards by `256 - e` from there on -/
theorem sext_toNat (e : UInt8) : (sext e).toNat = if e.toNat < 128 then e.toNat else e.toNat + 65280 :=
  eq_of_beq (forall_u8 (p := fun e => (sext e).toNat == if e.toNat < 128 then e.toNat else e.toNat + 65280)
    (by decide +kernel) e)

/-- the form in which the code adds a displacement: `x - |e|` / `x + e` -/
theorem add_sext (x : UInt16) (e : UInt8) :
    x + sext e = if bitGet e 7 then x - (signedToAbs e).toUInt16 else x + e.toUInt16 := by
  rw [sext_eq]; split
  · exact (UInt16.sub_eq_add_neg _ _).symm
  · rfl

/-- indexed addressing: `base - |d|` / `base + d` is `base + sext d` modulo 65,536, for all 2^24 inputs -/
theorem displace_eq (base : UInt16) (d : UInt8) : displace base d = base + sext d := (add_sext base d).symm

/-- relative jumps: the target is the address of the following instruction plus the signed displacement -/
theorem relTarget_eq (pc : UInt16) (e : UInt8) : relTarget pc e = pc + 2 + sext e := by
  rw [add_sext]; unfold relTarget; split
  · rfl
  · ac_rfl

theorem dasmRel_eq (address : UInt16) (e : UInt8) : dasmRel address e = address + 2 + sext e :=
  (add_sext (address + 2) e).symm

end Z80
