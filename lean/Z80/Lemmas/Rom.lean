/-
  Z80.Lemmas.Rom — everything the CPU does to the bus goes through `writeByte`/`writeWord`, at the addresses the
  instruction is specified to write; hence the bytes inside the declared ROM range (and the range, and the size)
  and every other cell are preserved.
-/
import Z80.Model.Run
import Z80.Spec.Footprint
import Z80.Lemmas.Bus
import Z80.Lemmas.Block
namespace Z80
open Bus

/-- `b'` has the same ROM declaration and size as `b` and agrees with it on every ROM byte. -/
structure RomEq (b b' : Bus) : Prop where
  rom : b'.rom = b.rom
  size : b'.mem.size = b.mem.size
  bytes : ∀ x, b.inRom x = true → b'.readByte x = b.readByte x

namespace RomEq

theorem refl (b : Bus) : RomEq b b := ⟨rfl, rfl, fun _ _ => rfl⟩

theorem trans {a b c : Bus} (h1 : RomEq a b) (h2 : RomEq b c) : RomEq a c :=
  ⟨h2.rom.trans h1.rom, h2.size.trans h1.size, fun x hx => by
    have hb : b.inRom x = true := by unfold inRom at *; rw [h1.rom]; exact hx
    rw [h2.bytes x hb, h1.bytes x hx]⟩

theorem writeByte (b : Bus) (a : UInt16) (v : UInt8) : RomEq b (b.writeByte a v) :=
  ⟨by simp, by simp, fun x hx => readByte_writeByte_rom b a x v hx⟩

theorem writeWord (b : Bus) (a w : UInt16) : RomEq b (b.writeWord a w) :=
  (writeByte b a _).trans (writeByte _ (a + 1) _)

end RomEq

/-- `b'` is `b` after bus writes at addresses in `S` only: ROM, declaration and size are kept (the bus guard), and
    so is every cell outside `S`.  Every bus effect of `exec` is of this kind (`exec_stores`). -/
structure Stores (S : UInt16 → Prop) (b b' : Bus) : Prop where
  romEq : RomEq b b'
  frame : ∀ x, ¬ S x → b'.readByte x = b.readByte x

namespace Stores
variable {S : UInt16 → Prop}

theorem refl (S : UInt16 → Prop) (b : Bus) : Stores S b b := ⟨RomEq.refl b, fun _ _ => rfl⟩

theorem trans {a b c : Bus} (h1 : Stores S a b) (h2 : Stores S b c) : Stores S a c :=
  ⟨h1.romEq.trans h2.romEq, fun x hx => (h2.frame x hx).trans (h1.frame x hx)⟩

theorem of_eq {b b' : Bus} (h : b' = b) : Stores S b b' := h ▸ refl S b

theorem mono {S' : UInt16 → Prop} {b b' : Bus} (h : Stores S b b') (hS : ∀ a, S a → S' a) : Stores S' b b' :=
  ⟨h.romEq, fun x hx => h.frame x (fun hs => hx (hS x hs))⟩

theorem setPC {b : Bus} {a : Arch} (n : UInt16) (h : Stores S b a.bus) : Stores S b (a.setPC n).bus := h

theorem ite {b : Bus} {c : Prop} [Decidable c] {a a' : Arch} (h : Stores S b a.bus) (h' : Stores S b a'.bus) :
    Stores S b (if c then a else a').bus := by
  split <;> assumption

theorem writeByte (b : Bus) (a : UInt16) (v : UInt8) : Stores (· ∈ [a]) b (b.writeByte a v) :=
  ⟨RomEq.writeByte b a v, fun x hx => readByte_writeByte_other b a x v (fun e => hx (e ▸ List.mem_singleton_self x))⟩

theorem writeWord (b : Bus) (a w : UInt16) : Stores (· ∈ [a, a + 1]) b (b.writeWord a w) :=
  ((writeByte b a _).mono fun _ h => List.mem_singleton.mp h ▸ List.mem_cons_self).trans
    ((writeByte _ (a + 1) _).mono fun _ h => List.mem_cons_of_mem _ h)

end Stores

/-! ### the helpers of `exec` -/

@[simp] theorem Arch.setPC_bus (a : Arch) (pc : UInt16) : (a.setPC pc).bus = a.bus := rfl
@[simp] theorem Arch.setFlags_bus (a : Arch) (f : Flags) : (a.setFlags f).bus = a.bus := rfl
@[simp] theorem Arch.setA_bus (a : Arch) (v : UInt8) : (a.setA v).bus = a.bus := rfl
@[simp] theorem Arch.popWord_bus (a : Arch) : a.popWord.2.bus = a.bus := rfl
@[simp] theorem cpStep_bus (up : Bool) (a : Arch) : (cpStep up a).bus = a.bus := rfl

theorem Arch.addrOf_setFlags (x : Arch) (f : Flags) (m : MemRef) : (x.setFlags f).addrOf m = x.addrOf m := by
  cases m with
  | idx i d => cases i <;> rfl
  | _ => rfl

theorem Arch.write8_setFlags (x : Arch) (f : Flags) (l : Loc8) (v : UInt8) :
    (x.setFlags f).write8 l v = (x.write8 l v).setFlags f := by
  cases l with
  | reg q => cases q <;> rfl
  | mem m => simp only [Arch.write8, Arch.addrOf_setFlags]; rfl

theorem Arch.write8_stores (x : Arch) (l : Loc8) (v : UInt8) {S : UInt16 → Prop} (h : ∀ m, l = .mem m → S (x.addrOf m)) :
    Stores S x.bus (x.write8 l v).bus := by
  cases l with
  | reg r => exact Stores.refl S _
  | mem m => exact (Stores.writeByte _ _ _).mono (fun _ e => List.mem_singleton.mp e ▸ h m rfl)

theorem Arch.write8_stores' (x : Arch) (f : Flags) (l : Loc8) (v : UInt8) {S : UInt16 → Prop}
    (h : ∀ m, l = .mem m → S (x.addrOf m)) : Stores S x.bus ((x.setFlags f).write8 l v).bus := by
  rw [x.write8_setFlags]; exact x.write8_stores l v h

theorem Arch.pushWord_stores (a : Arch) (w : UInt16) :
    Stores (· ∈ [a.reg.sp - 2, a.reg.sp - 2 + 1]) a.bus (a.pushWord w).bus := Stores.writeWord _ _ _

theorem ldStep_stores (up : Bool) (a : Arch) : Stores (· ∈ [a.reg.getDE]) a.bus (ldStep up a).bus :=
  Stores.writeByte _ _ _

theorem ldRepeat_stores (up : Bool) (a : Arch) : Stores (fun _ => True) a.bus (ldRepeat up a).bus :=
  ldRepeat_rel (R := fun a b => Stores _ a.bus b.bus) (fun _ => Stores.refl _ _) Stores.trans up
    (fun a => (ldStep_stores up a).mono (fun _ _ => trivial)) a

theorem cpRepeat_bus (up : Bool) (a : Arch) : (cpRepeat up a).bus = a.bus := cpRepeat_proj (·.bus) up (cpStep_bus up) a

open Spec in
/-- every instruction writes the bus at the addresses it is specified to write, and nowhere else (no claim about
    where for LDIR/LDDR: see `iter_ldStep_stores`) -/
theorem exec_stores (i : Instr) (len : UInt16) (x : Arch) :
    Stores (fun a => isBlockLoad i = false → a ∈ addrsWritten i x) x.bus (exec i len x).bus := by
  cases i
  case ld8 l _ | set _ l | res _ l =>
    refine .setPC _ (x.write8_stores l _ ?_)
    rintro m rfl _; exact List.mem_singleton_self _
  case inc8 l | dec8 l | rot _ l =>
    refine .setPC _ (x.write8_stores' _ l _ ?_)
    rintro m rfl _; exact List.mem_singleton_self _
  case st16m | exSP => exact (Stores.writeWord _ _ _).mono (fun _ h _ => h)
  case rld | rrd => exact (Stores.writeByte _ _ _).mono (fun _ h _ => h)
  case push | call | rst => exact .setPC _ ((x.pushWord_stores _).mono (fun _ h _ => h))
  case callcc => exact .ite (.setPC _ ((x.pushWord_stores _).mono (fun _ h _ => h))) (.setPC _ (.refl _ _))
  case ldi => exact .setPC _ ((ldStep_stores true x).mono (fun _ h _ => h))
  case ldd => exact .setPC _ ((ldStep_stores false x).mono (fun _ h _ => h))
  case ldir => exact .setPC _ ((ldRepeat_stores true x).mono (fun _ _ h => nomatch h))
  case lddr => exact .setPC _ ((ldRepeat_stores false x).mono (fun _ _ h => nomatch h))
  case cpir => exact .setPC _ (.of_eq (cpRepeat_bus true x))
  case cpdr => exact .setPC _ (.of_eq (cpRepeat_bus false x))
  case jpcc | jrcc | djnz | retcc => exact .ite (.setPC _ (.refl _ _)) (.setPC _ (.refl _ _))
  -- with the fields of `x` as variables the unifier reduces `(exec _ len x).bus` to the variable `bus`; with `x.bus` it
  -- would first compare the two states field by field, down to the arithmetic of the changed register
  all_goals exact .of_eq (by cases x; rfl)

/-- every instruction leaves the ROM bytes, the ROM declaration and the bus size alone. -/
theorem exec_romEq (i : Instr) (len : UInt16) (a : Arch) : RomEq a.bus (exec i len a).bus := (exec_stores i len a).romEq

theorem acceptNmi_romEq (a : Arch) : RomEq a.bus (acceptNmi a).bus := RomEq.writeWord _ _ _

theorem acceptInt_romEq (a : Arch) (b : UInt8) : RomEq a.bus (acceptInt a b).bus := by
  unfold acceptInt
  split
  · exact RomEq.refl _
  · split
    · exact RomEq.writeWord _ _ _
    · exact RomEq.refl _

theorem dispatch_romEq (a : Arch) : RomEq a.bus (dispatch a).1.bus := exec_romEq _ _ _

theorem wake_romEq (a : Arch) : RomEq a.bus (wake a).bus := by
  unfold wake; split <;> exact RomEq.refl _

theorem takeNmi_romEq (a : Arch) : RomEq a.bus (takeNmi a).bus := by
  unfold takeNmi; split
  · exact acceptNmi_romEq _
  · exact RomEq.refl _

theorem takeInt_romEq (a : Arch) : RomEq a.bus (takeInt a).bus := by
  unfold takeInt; split
  · exact acceptInt_romEq _ _
  · exact RomEq.refl _

theorem preDispatch_romEq (a : Arch) : RomEq a.bus (preDispatch a).bus :=
  ((wake_romEq a).trans (takeNmi_romEq _)).trans (takeInt_romEq _)

/-- one step of the CPU, including interrupt acceptance and the halted case. -/
theorem stepArch_romEq (a : Arch) : RomEq a.bus (stepArch a).1.bus := by
  unfold stepArch
  split
  · exact RomEq.refl _
  · exact (preDispatch_romEq a).trans (dispatch_romEq _)

theorem step_romEq (c : Cpu) : RomEq c.arch.bus (step c).1.arch.bus := stepArch_romEq c.arch

theorem executeTimed_romEq (c : Cpu) (e : Option UInt32) : RomEq c.arch.bus (executeTimed c e).1.arch.bus :=
  stepArch_romEq c.arch

theorem loadBin_rom (b : Bus) (file : Option (List UInt8)) (org : UInt16) (b' : Bus) (n : Nat)
    (h : b.loadBin file org = some (.ok (b', n))) : b'.rom = b.rom := by
  unfold Bus.loadBin at h
  split at h
  · simp at h
  · split at h
    · simp at h
    · split at h
      · simp only [Option.some.injEq, Except.ok.injEq, Prod.mk.injEq] at h
        rw [← h.1]
      · simp at h

theorem clearMemSlice_rom (b : Bus) (s e : Nat) (b' : Bus) (h : b.clearMemSlice s e = some b') : b'.rom = b.rom := by
  unfold Bus.clearMemSlice at h
  split at h
  · simp only [Option.some.injEq] at h; rw [← h]
  · simp at h

/-- the ROM declaration is touched by `set_romspace` only: not by any step, request, store, load (successful,
    failed or refused), clear, observation, clock setting or register assignment -/
theorem runEvent_rom_decl (c : Cpu) (e : Event) (hr : e.isSetRom = false) : (runEvent c e).arch.bus.rom = c.arch.bus.rom := by
  cases e with
  | setRom s t => simp [Event.isSetRom] at hr
  | step => exact (step_romEq c).rom
  | timed e => exact (executeTimed_romEq c e).rom
  | int b => rfl
  | nmi => rfl
  | writeByte a v => exact (RomEq.writeByte _ _ _).rom
  | writeWord a w => exact (RomEq.writeWord _ _ _).rom
  | load file org =>
    show (c.loadBin file org).arch.bus.rom = _
    unfold Cpu.loadBin
    split
    · rename_i b n h; exact loadBin_rom _ _ _ _ _ h
    · rfl
  | clear s t =>
    show (c.clearSlice s t).arch.bus.rom = _
    unfold Cpu.clearSlice
    split
    · rename_i b h; exact clearMemSlice_rom _ _ _ _ h
    · rfl
  | observe => rfl
  | setFreq n => rfl
  | setSliceDuration d => rfl
  | hostReg w v => rfl

theorem run_rom_decl (c : Cpu) (es : List Event) (hr : ∀ e ∈ es, e.isSetRom = false) :
    (run c es).arch.bus.rom = c.arch.bus.rom := by
  induction es generalizing c with
  | nil => rfl
  | cons e es ih =>
    show (run (runEvent c e) es).arch.bus.rom = _
    rw [ih _ (fun x hx => hr x (by simp [hx])), runEvent_rom_decl c e (hr e (by simp))]

theorem runEvent_romEq (c : Cpu) (e : Event) (hr : e.isSetRom = false) (ho : e.overwrites = false) :
    RomEq c.arch.bus (runEvent c e).arch.bus := by
  cases e with
  | setRom s t => simp [Event.isSetRom] at hr
  | load file org => simp [Event.overwrites] at ho
  | clear s t => simp [Event.overwrites] at ho
  | step => exact step_romEq c
  | timed e => exact executeTimed_romEq c e
  | int b => exact RomEq.refl _
  | nmi => exact RomEq.refl _
  | writeByte a v => exact RomEq.writeByte _ _ _
  | writeWord a w => exact RomEq.writeWord _ _ _
  | observe => exact RomEq.refl _
  | setFreq n => exact RomEq.refl _
  | setSliceDuration d => exact RomEq.refl _
  | hostReg w v => exact RomEq.refl _

theorem run_romEq (c : Cpu) (es : List Event) (hr : ∀ e ∈ es, e.isSetRom = false ∧ e.overwrites = false) :
    RomEq c.arch.bus (run c es).arch.bus := by
  induction es generalizing c with
  | nil => exact RomEq.refl _
  | cons e es ih =>
    exact (runEvent_romEq c e (hr e (by simp)).1 (hr e (by simp)).2).trans (ih _ (fun x hx => hr x (by simp [hx])))

theorem run_append (c : Cpu) (es1 es2 : List Event) : run c (es1 ++ es2) = run (run c es1) es2 := by
  simp [run, List.foldl_append]

end Z80
