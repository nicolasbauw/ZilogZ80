/-
  Z80.Lemmas.Effects — bridges between the vocabulary of `Spec.Effects` (names, `/ 256`, `% 256`,
  `* 256 +`, comparison with 128) and the model's (`hiByte`, `loByte`, `mkWord`, `displace`).
-/
import Z80.Spec.Effects
import Z80.Lemmas.Word
import Z80.Lemmas.Pc
import Z80.Lemmas.Enum
namespace Z80
open Spec

theorem hi_eq (w : UInt16) : hi w = (hiByte w).toUInt16 := by
  rw [← shr8_eq_hiByte]
  apply UInt16.toNat_inj.mp
  have := w.toNat_lt
  simp [hi, UInt16.toNat_div, Nat.shiftRight_eq_div_pow]
  omega

theorem lo_eq (w : UInt16) : lo w = (loByte w).toUInt16 := by
  apply UInt16.toNat_inj.mp
  have := w.toNat_lt
  have e : ∀ n : Nat, n &&& 255 = n % 256 := fun n => Nat.and_two_pow_sub_one_eq_mod n 8
  simp [lo, loByte, UInt16.toNat_mod, e]

theorem word_eq (h l : UInt8) : word h.toUInt16 l.toUInt16 = mkWord h l := by
  apply UInt16.toNat_inj.mp
  have hh := h.toNat_lt; have hl := l.toNat_lt
  -- the low byte fits under the shifted high byte, so `|||` is `+`
  have e : h.toNat <<< 8 % 65536 ||| l.toNat = h.toNat * 256 + l.toNat := by
    rw [Nat.mod_eq_of_lt (by rw [Nat.shiftLeft_eq]; omega), ← Nat.shiftLeft_add_eq_or_of_lt hl, Nat.shiftLeft_eq]
  have k : (256 : UInt16).toNat = 256 := rfl
  simp only [word, mkWord, UInt16.toNat_add, UInt16.toNat_mul, UInt16.toNat_or, UInt16.toNat_shiftLeft,
    UInt8.toNat_toUInt16, k]
  show _ = h.toNat <<< 8 % 65536 ||| l.toNat
  rw [e]; omega

theorem fByte_eq (f : Flags) : fByte f = f.toByte.toUInt16 := by
  obtain ⟨s, z, b5, h, b3, p, n, c⟩ := f
  revert s z b5 h b3 p n c
  decide +kernel

theorem pairV_eq (x : Arch) (p : R16) : pairV x p = x.reg.get16 p := by
  cases p
  case sp => rfl
  case af => show word _ (fByte _) = mkWord _ _; rw [fByte_eq]; exact word_eq _ _
  all_goals exact word_eq _ _

theorem sx_eq (d : UInt8) : sx d = sext d := by
  have h := forall_u8 (p := fun d => sx d == sext d) (by decide +kernel) d
  simpa using h

theorem addrV_eq (x : Arch) (m : MemRef) : addrV x m = x.addrOf m := by
  cases m with
  | idx i d =>
    cases i
    · show pairV x .ix + sx d = displace _ _; rw [displace_eq, sx_eq, pairV_eq]; rfl
    · show pairV x .iy + sx d = displace _ _; rw [displace_eq, sx_eq, pairV_eq]; rfl
  | hl => exact pairV_eq x .hl
  | bc => exact pairV_eq x .bc
  | de => exact pairV_eq x .de
  | abs nn => rfl

theorem wordAt_eq (x : Arch) (a : UInt16) : wordAt x a = x.bus.readWord a := word_eq _ _

theorem getReg_ofR8 (x : Arch) (r : R8) : getReg x (ofR8 r) = (x.reg.get8 r).toUInt16 := by cases r <;> rfl

theorem locV_eq (x : Arch) (l : Loc8) : locV x l = (x.read8 l).toUInt16 := by
  cases l with
  | reg r => exact getReg_ofR8 x r
  | mem m => show memV x (addrV x m) = _; rw [addrV_eq]; rfl

theorem opV_eq (x : Arch) (o : Op8) : opV x o = (x.readOp o).toUInt16 := by
  cases o with
  | loc l => exact locV_eq x l
  | imm n => rfl

theorem holds_eq (f : Flags) (cc : Cc) : holds f cc = condHolds f cc := by
  cases cc <;> simp [holds, condHolds]

/-- a byte whose numeric value is `k` is the 16-bit number `k` -/
theorem ofN_of_toNat (v : UInt8) (k : Nat) (h : v.toNat = k) : ofN k = v.toUInt16 := by
  subst h
  apply UInt16.toNat_inj.mp
  have := v.toNat_lt
  simp [ofN]

theorem ofN_of_toNat16 (v : UInt16) (k : Nat) (h : v.toNat = k) : ofN k = v := by
  subst h; simp [ofN]

theorem toUInt16_toUInt8 (v : UInt8) : v.toUInt16.toUInt8 = v := by
  apply UInt8.toNat_inj.mp; simp

/-! ### stores -/

theorem lo_toUInt8 (w : UInt16) : (lo w).toUInt8 = loByte w := by rw [lo_eq, toUInt16_toUInt8]
theorem hi_toUInt8 (w : UInt16) : (hi w).toUInt8 = (w >>> 8).toUInt8 := by rw [hi_eq, toUInt16_toUInt8, shr8_eq_hiByte]

/-- a word store in the specification's vocabulary -/
theorem store_word (b : Bus) (a w : UInt16) {w' : UInt16} (hw : w' = w) :
    b.writeWord a w = store [(a, lo w'), (a + 1, hi w')] b := by
  subst hw; show _ = (b.writeByte a (lo w').toUInt8).writeByte (a + 1) (hi w').toUInt8
  rw [lo_toUInt8, hi_toUInt8]; rfl

theorem store_byte (b : Bus) (a : UInt16) (v : UInt8) {a' v' : UInt16} (ha : a' = a) (hv : v' = v.toUInt16) :
    b.writeByte a v = store [(a', v')] b := by
  subst ha hv; show _ = b.writeByte a' v.toUInt16.toUInt8
  rw [toUInt16_toUInt8]

end Z80
