/-
  Z80.Lemmas.Rows — the 7 x 256 rows of the decoder.  Whatever `decode` returns is a row (`decode_isRow`); a fact about
  rows that does not look at the operand bytes holds for all operand bytes once it holds of the rows decoded with zero
  operands, which is a closed table the kernel evaluates (`forall_rows`); the row facts that C01, C04, C05, C06 and C15
  rest on (`rowFacts`).
-/
import Z80.Model.Dasm
import Z80.Spec.Timing
import Z80.Lemmas.Enum
namespace Z80

def isUnknown : Instr → Bool | .unknown => true | _ => false

theorem isUnknown_iff (i : Instr) : isUnknown i = true ↔ i = .unknown := by
  cases i <;> simp [isUnknown]

/-! ### rows -/

/-- row `op` of page `pg`; `o1 o2` are the operand bytes that page's decoder is given (base: the bytes at pc+1, pc+2;
    ED, DD, FD: those at pc+2, pc+3; DDCB, FDCB: the displacement at pc+2; CB: none) -/
def decodeRow (pg : Page) (op o1 o2 : UInt8) : Instr × UInt16 :=
  match pg with
  | .base => decodeBase op o1 o2
  | .cb => decodeCB op
  | .ed => decodeED op o1 o2
  | .dd => decodeIdx .ix op o1 o2
  | .fd => decodeIdx .iy op o1 o2
  | .ddcb => decodeIdxCB .ix o1 op
  | .fdcb => decodeIdxCB .iy o1 op

/-- `d` is the row `d.op` of page `d.page`, decoded with some operand bytes -/
def IsRow (d : Decoded) : Prop :=
  match d.page with
  | .base => isPrefix d.op = false ∧ ∃ b1 b2, (d.instr, d.len) = decodeBase d.op b1 b2
  | .cb => (d.instr, d.len) = decodeCB d.op
  | .ed => ∃ b2 b3, (d.instr, d.len) = decodeED d.op b2 b3
  | .dd => ∃ b2 b3, (d.instr, d.len) = decodeIdx .ix d.op b2 b3
  | .fd => ∃ b2 b3, (d.instr, d.len) = decodeIdx .iy d.op b2 b3
  | .ddcb => ∃ dd, (d.instr, d.len) = decodeIdxCB .ix dd d.op
  | .fdcb => ∃ dd, (d.instr, d.len) = decodeIdxCB .iy dd d.op

theorem IsRow.eq_decodeRow {d : Decoded} (h : IsRow d) : ∃ o1 o2, (d.instr, d.len) = decodeRow d.page d.op o1 o2 := by
  obtain ⟨i, len, pg, op⟩ := d
  cases pg <;> simp only [IsRow] at h
  case base => exact h.2
  case cb => exact ⟨0, 0, h⟩
  case ddcb => exact h.elim fun dd e => ⟨dd, 0, e⟩
  case fdcb => exact h.elim fun dd e => ⟨dd, 0, e⟩
  all_goals exact h

theorem decode_isRow (bus : Bus) (pc : UInt16) (first : UInt8) :
    IsRow (decode bus pc first) ∨ ((decode bus pc first).instr = .unknown ∧ (decode bus pc first).len = 2) := by
  unfold decode
  by_cases hp : isPrefix first = true
  · simp only [hp, ↓reduceIte]
    split
    · exact Or.inl rfl
    · exact Or.inl ⟨_, _, rfl⟩
    · split
      · exact Or.inl ⟨_, rfl⟩
      · exact Or.inl ⟨_, _, rfl⟩
    · split
      · exact Or.inl ⟨_, rfl⟩
      · exact Or.inl ⟨_, _, rfl⟩
    · exact Or.inr ⟨rfl, rfl⟩
  · simp only [hp, Bool.false_eq_true, ↓reduceIte]
    exact Or.inl ⟨by simpa using hp, _, _, rfl⟩

theorem decodeCB_len (op : UInt8) : (decodeCB op).2 = 2 := by
  simp only [decodeCB]; split <;> rfl

/-! ### operand independence -/

def MemRef.erase : MemRef → MemRef | .idx i _ => .idx i 0 | .abs _ => .abs 0 | m => m
def Loc8.erase : Loc8 → Loc8 | .reg r => .reg r | .mem m => .mem m.erase
def Op8.erase : Op8 → Op8 | .loc l => .loc l.erase | .imm _ => .imm 0

/-- the instruction with every immediate operand zeroed -/
def eraseI : Instr → Instr
  | .ld8 d s => .ld8 d.erase s.erase
  | .ld16 d _ => .ld16 d 0 | .ld16m d _ => .ld16m d 0 | .st16m _ s => .st16m 0 s
  | .alu op s => .alu op s.erase
  | .inc8 l => .inc8 l.erase | .dec8 l => .dec8 l.erase
  | .rot op l => .rot op l.erase | .bit b l => .bit b l.erase | .set b l => .set b l.erase | .res b l => .res b l.erase
  | .jp _ => .jp 0 | .jpcc cc _ => .jpcc cc 0 | .jr _ => .jr 0 | .jrcc cc _ => .jrcc cc 0 | .djnz _ => .djnz 0
  | .call _ => .call 0 | .callcc cc _ => .callcc cc 0
  | i => i

def eraseRow (r : Instr × UInt16) : Instr × UInt16 := (eraseI r.1, r.2)

theorem decodeIdxCB_erase (i : Idx) (d op : UInt8) : eraseRow (decodeIdxCB i d op) = eraseRow (decodeIdxCB i 0 op) := by
  simp only [decodeIdxCB]
  split
  · rfl
  · split <;> rfl

theorem decodeIdx_erase (i : Idx) (op b2 b3 : UInt8) : eraseRow (decodeIdx i op b2 b3) = eraseRow (decodeIdx i op 0 0) := by
  simp only [decodeIdx]
  generalize op >>> 6 = x
  generalize (op >>> 3) &&& 7 = y
  generalize op &&& 7 = z
  split
  · split <;> rfl
  · split
    · rfl
    · split
      · rfl
      · split <;> rfl
  · split
    · rfl
    · split <;> rfl
  · split <;> rfl

set_option maxRecDepth 100000 in
/-- the operand bytes only ever end up in operand positions.  For the base and ED pages this is checked row by row with
    the operand bytes as free variables, which only the elaborator can evaluate (`by rfl`: the term `rfl` would have it
    evaluate a second time for the `defeq` attribute); it is the one place where that is done -/
theorem decodeRow_erase (pg : Page) (op o1 o2 : UInt8) :
    eraseRow (decodeRow pg op o1 o2) = eraseRow (decodeRow pg op 0 0) := by
  cases pg
  case cb => rfl
  case dd => exact decodeIdx_erase ..
  case fd => exact decodeIdx_erase ..
  case ddcb => exact decodeIdxCB_erase ..
  case fdcb => exact decodeIdxCB_erase ..
  all_goals
    refine of_decide_eq_true ?_
    revert op
    refine forall_u8 ?_
    rfl

/-- a fact `P` about the rows of page `pg` and the entries of a 256-row table `t` that does not look at the operands
    holds of every row with every operand bytes as soon as it holds of the 256 rows decoded with zero operands -/
theorem forall_rows (pg : Page) {α : Type} (t : Array α) (d : α) (ht : t.size = 256) {P : UInt8 → α → Instr × UInt16 → Bool}
    (hP : ∀ op x r, P op x (eraseRow r) = P op x r)
    (h : allFrom (fun i x => P (UInt8.ofNat i) x (decodeRow pg (UInt8.ofNat i) 0 0)) 0 t.toList = true)
    (op o1 o2 : UInt8) : P op (t.getD op.toNat d) (decodeRow pg op o1 o2) = true := by
  rw [← hP, decodeRow_erase, hP]
  exact forall_u8_table (p := fun op x => P op x (decodeRow pg op 0 0)) t d ht h op

/-! ### the row facts the properties use -/

def docNonIo (page : Page) (op : UInt8) : Bool := Spec.documented page op && !Spec.io page op

/-- the table `tableCycles` consults on a page (DDCB/FDCB: none, the constants are in the code; any table does) -/
def pageCycles : Page → Array UInt8
  | .base => cyclesBase | .cb => cyclesCB | .ed => cyclesED | _ => cyclesIdx

/-- `tableCycles` of a row whose table entry is `c` -/
def rowTable (pg : Page) (op c : UInt8) (i : Instr) : UInt32 :=
  match pg with
  | .ddcb | .fdcb => tableCycles ⟨i, 0, pg, op⟩
  | _ => c.toUInt32

theorem tableCycles_eq (d : Decoded) :
    tableCycles d = rowTable d.page d.op ((pageCycles d.page).getD d.op.toNat 0) d.instr := by
  obtain ⟨i, l, pg, op⟩ := d
  cases pg <;> rfl

/-- what `instrCycles` adds up for a row (the unknown sentinel aside) -/
def rowCycles (pg : Page) (op c : UInt8) (i : Instr) (tk : Bool) : UInt32 := rowTable pg op c i + extraCycles i tk

/-- the interpreter's table entry plus increment is Zilog's figure, for both branch outcomes, on every documented row
    that is not I/O or a block repeat -/
def timingRowOk (pg : Page) (op c : UInt8) (i : Instr) : Bool :=
  !docNonIo pg op || Spec.isBlockRepeat i ||
    (Spec.timing pg i true == some (rowCycles pg op c i true).toNat &&
     Spec.timing pg i false == some (rowCycles pg op c i false).toNat)

def lenOk (l : UInt16) : Bool := decide (1 ≤ l.toNat) && decide (l.toNat ≤ 4)

/-- an instruction the manual defines: no POP into SP, bit numbers 0..7 -/
def wfInstr : Instr → Bool
  | .pop r => r != .sp
  | .set b _ | .res b _ | .bit b _ => decide (b.toNat < 8)
  | _ => true

/-- what the properties need to know about row `op` of page `pg`, `c` its entry in the interpreter's table: documented
    and not I/O => executed (C05); Zilog's timing (C04); the count is never the sentinel 255 (C05); length 1..4 (C06);
    manual-defined form (C01) -/
def rowFacts (pg : Page) (op c : UInt8) (r : Instr × UInt16) : Bool :=
  (!docNonIo pg op || !isUnknown r.1) && timingRowOk pg op c r.1 &&
  (rowCycles pg op c r.1 true != 255 && rowCycles pg op c r.1 false != 255) && lenOk r.2 && wfInstr r.1

/-- base page, `t` the disassembler's template of the row: its size column equals the decoder's length wherever there
    is a template (C15) -/
def sizeOk (op : UInt8) (t : List Piece) (r : Instr × UInt16) : Bool := t.isEmpty || (dasmSize op).toUInt16 == r.2

theorem eraseI_facts (i : Instr) :
    isUnknown (eraseI i) = isUnknown i ∧ wfInstr (eraseI i) = wfInstr i ∧
    Spec.isBlockRepeat (eraseI i) = Spec.isBlockRepeat i ∧ (∀ tk, extraCycles (eraseI i) tk = extraCycles i tk) ∧
    ∀ pg op c, rowTable pg op c (eraseI i) = rowTable pg op c i := by
  cases i <;> exact ⟨rfl, rfl, rfl, fun _ => rfl, fun _ _ _ => rfl⟩

theorem Loc8.erase_kind (l : Loc8) :
    Spec.isReg l.erase = Spec.isReg l ∧ Spec.isHLMem l.erase = Spec.isHLMem l ∧ Spec.isIdxMem l.erase = Spec.isIdxMem l := by
  cases l with
  | reg r => exact ⟨rfl, rfl, rfl⟩
  | mem m => cases m <;> exact ⟨rfl, rfl, rfl⟩

theorem timing_erase (pg : Page) (i : Instr) (tk : Bool) : Spec.timing pg (eraseI i) tk = Spec.timing pg i tk := by
  cases i <;> try rfl
  case ld8 d s =>
    cases d with
    | reg r => cases s with
      | imm n => rfl
      | loc l => cases l with
        | reg r => rfl
        | mem m => cases m <;> rfl
    | mem m => cases s with
      | imm n => cases m <;> rfl
      | loc l => cases l with
        | reg r => cases m <;> rfl
        | mem m' => cases m <;> cases m' <;> rfl
  case alu op s =>
    cases s with
    | imm n => rfl
    | loc l => cases l with
      | reg r => rfl
      | mem m => cases m <;> rfl
  -- inc8, dec8, rot, bit, set, res: the figure depends on the kind of the location only
  all_goals
    rename_i l
    obtain ⟨h1, h2, h3⟩ := Loc8.erase_kind l
    simp only [eraseI, Spec.timing, h1, h2, h3]

theorem rowFacts_erase (pg : Page) (op c : UInt8) (r : Instr × UInt16) :
    rowFacts pg op c (eraseRow r) = rowFacts pg op c r := by
  obtain ⟨h1, h2, h3, h4, h5⟩ := eraseI_facts r.1
  simp only [rowFacts, timingRowOk, rowCycles, eraseRow, h1, h2, h3, h4, h5, timing_erase]

theorem row_facts (pg : Page) (op o1 o2 : UInt8) :
    rowFacts pg op ((pageCycles pg).getD op.toNat 0) (decodeRow pg op o1 o2) = true := by
  cases pg <;> exact forall_rows _ _ 0 (by decide +kernel) (rowFacts_erase _) (by decide +kernel) op o1 o2

theorem size_base (op b1 b2 : UInt8) : sizeOk op (dasmBase.getD op.toNat []) (decodeBase op b1 b2) = true :=
  forall_rows .base dasmBase [] (by decide +kernel) (fun _ _ _ => rfl) (by decide +kernel) op b1 b2

/-- the row facts of whatever `decode` returned, one by one -/
theorem isRow_facts (d : Decoded) (hr : IsRow d) :
    (docNonIo d.page d.op = true → d.instr ≠ .unknown) ∧
    timingRowOk d.page d.op ((pageCycles d.page).getD d.op.toNat 0) d.instr = true ∧
    (∀ tk, tableCycles d + extraCycles d.instr tk ≠ 255) ∧ lenOk d.len = true ∧ wfInstr d.instr = true := by
  obtain ⟨o1, o2, e⟩ := hr.eq_decodeRow
  have h := row_facts d.page d.op o1 o2
  rw [← e] at h
  simp only [rowFacts, Bool.and_eq_true, Bool.or_eq_true, Bool.not_eq_true', bne_iff_ne, ne_eq] at h
  obtain ⟨⟨⟨⟨h1, h2⟩, h3, h4⟩, h5⟩, h6⟩ := h
  refine ⟨fun hd hu => ?_, h2, fun tk => ?_, h5, h6⟩
  · rw [hd, hu] at h1; simp [isUnknown] at h1
  · rw [tableCycles_eq]; cases tk
    · exact h4
    · exact h3

/-- a documented, non-I/O row decodes to an executed instruction -/
theorem isRow_doc_impl (d : Decoded) (hr : IsRow d) (hd : docNonIo d.page d.op = true) : d.instr ≠ .unknown :=
  (isRow_facts d hr).1 hd

theorem decode_len (bus : Bus) (pc : UInt16) (first : UInt8) :
    1 ≤ (decode bus pc first).len.toNat ∧ (decode bus pc first).len.toNat ≤ 4 := by
  rcases decode_isRow bus pc first with h | h
  · simpa [lenOk] using (isRow_facts _ h).2.2.2.1
  · rw [h.2]; decide

theorem decode_wf (bus : Bus) (pc : UInt16) (first : UInt8) : wfInstr (decode bus pc first).instr = true := by
  rcases decode_isRow bus pc first with h | h
  · exact (isRow_facts _ h).2.2.2.2
  · rw [h.1]; rfl

end Z80
