/-
  Z80.Lemmas.Swap — renaming IX <-> IY: on instructions, on states, and how `decode` and `exec`
  commute with it.
-/
import Z80.Model.Step
namespace Z80

def Idx.swap : Idx → Idx | .ix => .iy | .iy => .ix
def R8.swap : R8 → R8
  | .ixh => .iyh | .ixl => .iyl | .iyh => .ixh | .iyl => .ixl | r => r
def R16.swap : R16 → R16 | .ix => .iy | .iy => .ix | r => r
def MemRef.swap : MemRef → MemRef | .idx i d => .idx i.swap d | m => m
def Loc8.swap : Loc8 → Loc8 | .reg r => .reg r.swap | .mem m => .mem m.swap
def Op8.swap : Op8 → Op8 | .loc l => .loc l.swap | .imm n => .imm n

/-- the same instruction with IX and IY (and their halves) renamed -/
def swapI : Instr → Instr
  | .ld8 d s => .ld8 d.swap s.swap
  | .ld16 d nn => .ld16 d.swap nn
  | .ld16m d nn => .ld16m d.swap nn
  | .st16m nn s => .st16m nn s.swap
  | .ldSP s => .ldSP s.swap
  | .push r => .push r.swap
  | .pop r => .pop r.swap
  | .exSP r => .exSP r.swap
  | .alu op s => .alu op s.swap
  | .inc8 l => .inc8 l.swap
  | .dec8 l => .dec8 l.swap
  | .add16 d s => .add16 d.swap s.swap
  | .adc16 s => .adc16 s.swap
  | .sbc16 s => .sbc16 s.swap
  | .inc16 r => .inc16 r.swap
  | .dec16 r => .dec16 r.swap
  | .rot op l => .rot op l.swap
  | .bit b l => .bit b l.swap
  | .set b l => .set b l.swap
  | .res b l => .res b l.swap
  | .jpR r => .jpR r.swap
  | i => i

/-- the state with the contents of IX and IY exchanged -/
def Regs.swapXY (r : Regs) : Regs := { r with ixh := r.iyh, ixl := r.iyl, iyh := r.ixh, iyl := r.ixl }
def Arch.swapXY (a : Arch) : Arch := { a with reg := a.reg.swapXY }

theorem locOf_swap (z : UInt8) : (locOf z).swap = locOf z := by
  unfold locOf; split <;> rfl

theorem locOfX_swap (i : Idx) (z : UInt8) : (locOfX i z).swap = locOfX i.swap z := by
  unfold locOfX; split
  · cases i <;> rfl
  · cases i <;> rfl
  · exact locOf_swap _

theorem rpOfX_swap (i : Idx) (p : UInt8) : (rpOfX i p).swap = rpOfX i.swap p := by
  unfold rpOfX; split <;> first | rfl | (cases i <;> rfl)

theorem idxR_swap (i : Idx) : (idxR i).swap = idxR i.swap := by cases i <;> rfl

/-- DDCB / FDCB rows: the FD row is the renamed DD row, for every fourth byte and displacement -/
theorem decodeIdxCB_swap (d op : UInt8) :
    decodeIdxCB .iy d op = (swapI (decodeIdxCB .ix d op).1, (decodeIdxCB .ix d op).2) := by
  simp only [decodeIdxCB]
  split
  · rfl
  · generalize op >>> 6 = x
    split <;> rfl

theorem idxH_swap (i : Idx) : (idxH i).swap = idxH i.swap := by cases i <;> rfl
theorem idxL_swap (i : Idx) : (idxL i).swap = idxL i.swap := by cases i <;> rfl

theorem Loc8.swap_reg (r : R8) : (Loc8.reg r).swap = .reg r.swap := rfl
theorem Loc8.swap_mem (m : MemRef) : (Loc8.mem m).swap = .mem m.swap := rfl
theorem Op8.swap_loc (l : Loc8) : (Op8.loc l).swap = .loc l.swap := rfl
theorem Op8.swap_imm (n : UInt8) : (Op8.imm n).swap = .imm n := rfl
theorem MemRef.swap_idx (i : Idx) (d : UInt8) : (MemRef.idx i d).swap = .idx i.swap d := rfl
theorem Idx.swap_ix : Idx.ix.swap = .iy := rfl
theorem Idx.swap_iy : Idx.iy.swap = .ix := rfl

macro "swap_norm" : tactic =>
  `(tactic| (simp only [swapI, rpOfX_swap, locOfX_swap, locOf_swap, idxR_swap, idxH_swap, idxL_swap,
      Loc8.swap_reg, Loc8.swap_mem, Op8.swap_loc, Op8.swap_imm, MemRef.swap_idx, Idx.swap_ix, Idx.swap_iy] at *))

theorem decodeIdx_swap (op b2 b3 : UInt8) (h : (decodeIdx .iy op b2 b3).1 ≠ .unknown) :
    decodeIdx .iy op b2 b3 = (swapI (decodeIdx .ix op b2 b3).1, (decodeIdx .ix op b2 b3).2) := by
  simp only [decodeIdx] at h ⊢
  generalize op >>> 6 = x at h ⊢
  generalize (op >>> 3) &&& 7 = y at h ⊢
  generalize op &&& 7 = z at h ⊢
  split
  · split <;> first | rfl | (swap_norm; done) | (swap_norm; simp_all)
  · split
    · rfl
    · split
      · swap_norm
      · split
        · swap_norm
        · swap_norm
  · split
    · swap_norm
    · split
      · swap_norm
      · rfl
  · split <;> first | rfl | (swap_norm; done)

/-! ### states -/

@[simp] theorem Regs.swapXY_swapXY (r : Regs) : r.swapXY.swapXY = r := rfl
@[simp] theorem Arch.swapXY_swapXY (a : Arch) : a.swapXY.swapXY = a := rfl

@[simp] theorem Regs.get8_swap (r : Regs) (x : R8) : r.swapXY.get8 x.swap = r.get8 x := by cases x <;> rfl
@[simp] theorem Regs.set8_swap (r : Regs) (x : R8) (v : UInt8) : r.swapXY.set8 x.swap v = (r.set8 x v).swapXY := by
  cases x <;> rfl
@[simp] theorem Regs.get16_swap (r : Regs) (x : R16) : r.swapXY.get16 x.swap = r.get16 x := by cases x <;> rfl
@[simp] theorem Regs.set16_swap (r : Regs) (x : R16) (v : UInt16) : r.swapXY.set16 x.swap v = (r.set16 x v).swapXY := by
  cases x <;> rfl

@[simp] theorem Arch.addrOf_swap (a : Arch) (m : MemRef) : a.swapXY.addrOf m.swap = a.addrOf m := by
  cases m with
  | idx i d => cases i <;> rfl
  | _ => rfl
@[simp] theorem Arch.read8_swap (a : Arch) (l : Loc8) : a.swapXY.read8 l.swap = a.read8 l := by
  cases l with
  | reg r => exact Regs.get8_swap _ _
  | mem m => show a.swapXY.bus.readByte (a.swapXY.addrOf m.swap) = _; rw [Arch.addrOf_swap]; rfl
@[simp] theorem Arch.readOp_swap (a : Arch) (o : Op8) : a.swapXY.readOp o.swap = a.readOp o := by
  cases o with
  | loc l => exact Arch.read8_swap _ _
  | imm n => rfl
@[simp] theorem Arch.write8_swap (a : Arch) (l : Loc8) (v : UInt8) : a.swapXY.write8 l.swap v = (a.write8 l v).swapXY := by
  cases l with
  | reg r => show ({ a.swapXY with reg := a.swapXY.reg.set8 r.swap v } : Arch) = _; rw [show a.swapXY.reg = a.reg.swapXY from rfl, Regs.set8_swap]; rfl
  | mem m => show ({ a.swapXY with bus := a.swapXY.bus.writeByte (a.swapXY.addrOf m.swap) v } : Arch) = _; rw [Arch.addrOf_swap]; rfl

@[simp] theorem Arch.swapXY_bus (a : Arch) : a.swapXY.bus = a.bus := rfl
@[simp] theorem Arch.swapXY_setPC (a : Arch) (pc : UInt16) : a.swapXY.setPC pc = (a.setPC pc).swapXY := rfl
@[simp] theorem Arch.swapXY_setFlags (a : Arch) (f : Flags) : a.swapXY.setFlags f = (a.setFlags f).swapXY := rfl
@[simp] theorem Arch.swapXY_setA (a : Arch) (v : UInt8) : a.swapXY.setA v = (a.setA v).swapXY := rfl
@[simp] theorem Arch.swapXY_pushWord (a : Arch) (w : UInt16) : a.swapXY.pushWord w = (a.pushWord w).swapXY := rfl
@[simp] theorem Arch.swapXY_popWord (a : Arch) : a.swapXY.popWord = (a.popWord.1, a.popWord.2.swapXY) := rfl
@[simp] theorem swapXY_ldStep (up : Bool) (a : Arch) : ldStep up a.swapXY = (ldStep up a).swapXY := rfl
@[simp] theorem swapXY_cpStep (up : Bool) (a : Arch) : cpStep up a.swapXY = (cpStep up a).swapXY := rfl

theorem swapXY_ldLoop (up : Bool) (n : Nat) (a : Arch) : ldLoop up n a.swapXY = (ldLoop up n a).swapXY := by
  induction n generalizing a with
  | zero => rfl
  | succ n ih =>
    rw [ldLoop, ldLoop, swapXY_ldStep]
    generalize ldStep up a = a1
    have : a1.swapXY.reg.getBC = a1.reg.getBC := rfl
    rw [this]; split
    · rfl
    · exact ih _

theorem swapXY_cpLoop (up : Bool) (n : Nat) (a : Arch) : cpLoop up n a.swapXY = (cpLoop up n a).swapXY := by
  induction n generalizing a with
  | zero => rfl
  | succ n ih =>
    rw [cpLoop, cpLoop, swapXY_cpStep]
    generalize cpStep up a = a1
    have h1 : a1.swapXY.reg.getBC = a1.reg.getBC := rfl
    have h2 : a1.swapXY.reg.flags = a1.reg.flags := rfl
    rw [h1, h2]; split
    · rfl
    · exact ih _

@[simp] theorem swapXY_flags (a : Arch) : a.swapXY.reg.flags = a.reg.flags := rfl
@[simp] theorem swapXY_pc (a : Arch) : a.swapXY.reg.pc = a.reg.pc := rfl
@[simp] theorem swapXY_rega (a : Arch) : a.swapXY.reg.a = a.reg.a := rfl
@[simp] theorem swapXY_regb (a : Arch) : a.swapXY.reg.b = a.reg.b := rfl

theorem exec_swap (i : Instr) (len : UInt16) (a : Arch) : exec (swapI i) len a.swapXY = (exec i len a).swapXY := by
  cases i <;> simp only [swapI, exec.eq_def, ldRepeat, cpRepeat, swapXY_ldLoop, swapXY_cpLoop, swapXY_ldStep, swapXY_cpStep,
    Arch.swapXY_setPC, Arch.read8_swap, Arch.readOp_swap, Arch.write8_swap, Arch.swapXY_setFlags, swapXY_flags, swapXY_pc,
    Arch.swapXY_pushWord, Arch.swapXY_popWord, swapXY_rega, swapXY_regb, Arch.swapXY_bus]
  case ld16 d nn => cases d <;> rfl
  case ld16m d nn => cases d <;> rfl
  case st16m nn r => cases r <;> rfl
  case ldSP r => cases r <;> rfl
  case push r => cases r <;> rfl
  case pop r => cases r <;> rfl
  case exSP r => cases r <;> rfl
  case add16 d s => cases d <;> cases s <;> rfl
  case adc16 r => cases r <;> rfl
  case sbc16 r => cases r <;> rfl
  case inc16 r => cases r <;> rfl
  case dec16 r => cases r <;> rfl
  case jpR r => cases r <;> rfl
  case djnz e =>
    by_cases h : a.reg.b - 1 = 0
    · simp [h]; rfl
    · have : (a.reg.b - 1 != 0) = true := by simpa using h
      simp only [this, ↓reduceIte]; rfl
  all_goals first
    | rfl
    | (split <;> simp_all)

end Z80
