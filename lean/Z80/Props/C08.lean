/-
  C08 — Bus access respects the configured size; words compose byte accesses.
  `b` is any bus: any size (`b.mem.size` = top address + 1, also sizes the constructor cannot
  produce), any ROM window; `writable` = at or below the top address and outside ROM.
-/
import Z80.Lemmas.Bus
import Z80.Lemmas.Word
namespace Z80
open Bus

/-- a byte written at a writable address is read back unchanged -/
theorem C08_read_after_write (b : Bus) (a : UInt16) (v : UInt8) (h : b.writable a) :
    (b.writeByte a v).readByte a = v := readByte_writeByte_same b a v h

/-- and disturbs no other address -/
theorem C08_noninterference (b : Bus) (a x : UInt16) (v : UInt8) (h : x ≠ a) :
    (b.writeByte a v).readByte x = b.readByte x := readByte_writeByte_other b a x v h

/-- reads above the top address return 0 -/
theorem C08_read_above_top (b : Bus) (a : UInt16) (h : b.mem.size ≤ a.toNat) : b.readByte a = 0 :=
  readByte_above_top b a h

/-- writes above the top address are ignored (the whole bus is unchanged) -/
theorem C08_write_above_top (b : Bus) (a : UInt16) (v : UInt8) (h : b.mem.size ≤ a.toNat) :
    b.writeByte a v = b := writeByte_above_top b a v h

/-- the constructor gives a bus whose top address is `size`, all zero, without ROM -/
theorem C08_new (size a : UInt16) : (Bus.new size).readByte a = 0 ∧ (Bus.new size).mem.size = size.toNat + 1 ∧
    (Bus.new size).rom = none := by
  refine ⟨?_, by simp [Bus.new], rfl⟩
  unfold Bus.new readByte
  rw [Array.getD_eq_getD_getElem?]
  by_cases h : a.toNat < size.toNat + 1 <;> simp [h]

/-- 16-bit read = the two byte reads at `a` and `a+1` (wrapping), low byte first -/
theorem C08_readWord_compose (b : Bus) (a : UInt16) :
    b.readWord a = ((b.readByte (a + 1)).toUInt16 <<< 8) ||| (b.readByte a).toUInt16 := rfl

theorem C08_readLeWord_compose (b : Bus) (a : UInt16) :
    b.readLeWord a = ((b.readByte a).toUInt16 <<< 8) ||| (b.readByte (a + 1)).toUInt16 := rfl

theorem C08_readLeDword_compose (b : Bus) (a : UInt16) :
    b.readLeDword a = ((b.readByte a).toUInt32 <<< 24) ||| ((b.readByte (a + 1)).toUInt32 <<< 16) |||
      ((b.readByte (a + 2)).toUInt32 <<< 8) ||| (b.readByte (a + 3)).toUInt32 := rfl

/-- 16-bit write = the two byte writes (each through the size and ROM guards) -/
theorem C08_writeWord_compose (b : Bus) (a w : UInt16) :
    b.writeWord a w = (b.writeByte a (loByte w)).writeByte (a + 1) (hiByte w) := by
  unfold writeWord; rw [shr8_eq_hiByte]

/-- a word written where both bytes are writable is the word read back, and equals its two bytes -/
theorem C08_word_roundtrip (b : Bus) (a w : UInt16) (h0 : b.writable a) (h1 : b.writable (a + 1)) :
    (b.writeWord a w).readWord a = w ∧ (b.writeWord a w).readByte a = loByte w ∧
    (b.writeWord a w).readByte (a + 1) = hiByte w :=
  ⟨readWord_writeWord b a w h0 h1, readByte_writeWord_lo b a w h0, readByte_writeWord_hi b a w h1⟩

/-- word writes disturb no address other than `a` and `a+1` -/
theorem C08_word_noninterference (b : Bus) (a x w : UInt16) (h0 : x ≠ a) (h1 : x ≠ a + 1) :
    (b.writeWord a w).readByte x = b.readByte x := readByte_writeWord_other b a x w h0 h1

/-- wrap at 0xFFFF: the second byte of a word at 0xFFFF is the byte at 0x0000 -/
theorem C08_wrap (b : Bus) : b.readWord 0xFFFF = mkWord (b.readByte 0) (b.readByte 0xFFFF) := rfl

/-! ### any sequence of stores -/

/-- one store on the bus: a byte or a word -/
inductive Store
  | byte (a : UInt16) (v : UInt8)
  | word (a : UInt16) (w : UInt16)

def Store.apply (b : Bus) : Store → Bus
  | .byte a v => b.writeByte a v
  | .word a w => b.writeWord a w

/-- the addresses a store may touch -/
def Store.hits (x : UInt16) : Store → Prop
  | .byte a _ => x = a
  | .word a _ => x = a ∨ x = a + 1

theorem Store.apply_readByte (b : Bus) (s : Store) (x : UInt16) (h : ¬ s.hits x) :
    (s.apply b).readByte x = b.readByte x := by
  cases s with
  | byte a v => exact readByte_writeByte_other b a x v h
  | word a w => exact readByte_writeWord_other b a x w (fun e => h (.inl e)) (fun e => h (.inr e))

theorem Store.apply_size (b : Bus) (s : Store) : (s.apply b).mem.size = b.mem.size := by
  cases s <;> simp [Store.apply]

theorem Store.apply_rom (b : Bus) (s : Store) : (s.apply b).rom = b.rom := by
  cases s <;> simp [Store.apply]

/-- a byte written (where writable) is read back unchanged after ANY further sequence of byte and word stores that
    do not address it, however long; the size and the ROM declaration never change -/
theorem C08_stores (b : Bus) (ss : List Store) (x : UInt16) (hx : ∀ s ∈ ss, ¬ s.hits x) :
    (ss.foldl Store.apply b).readByte x = b.readByte x ∧ (ss.foldl Store.apply b).mem.size = b.mem.size ∧
    (ss.foldl Store.apply b).rom = b.rom := by
  induction ss generalizing b with
  | nil => exact ⟨rfl, rfl, rfl⟩
  | cons s ss ih =>
    obtain ⟨i1, i2, i3⟩ := ih (s.apply b) (fun t ht => hx t (List.mem_cons_of_mem _ ht))
    exact ⟨i1.trans (s.apply_readByte b x (hx s List.mem_cons_self)), i2.trans (s.apply_size b), i3.trans (s.apply_rom b)⟩

theorem C08_read_after_write_stores (b : Bus) (a : UInt16) (v : UInt8) (h : b.writable a) (ss : List Store)
    (hx : ∀ s ∈ ss, ¬ s.hits a) : (ss.foldl Store.apply (b.writeByte a v)).readByte a = v := by
  rw [(C08_stores _ ss a hx).1]; exact readByte_writeByte_same b a v h

/-- non-vacuity: a 4-byte bus, word written at the top address: high byte is dropped, low byte lands -/
example : ((Bus.new 3).writeWord 3 0xBEEF).readWord 3 = 0x00EF ∧ (Bus.new 3).writable 3 ∧ ¬ (Bus.new 3).writable 4 := by
  decide

end Z80
