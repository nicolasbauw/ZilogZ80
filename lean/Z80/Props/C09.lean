/-
  C09 — Register-pair and flag-byte views are consistent and lossless.
  All statements are for every register file `r`, every 16-bit value `v`, every flag byte.
-/
import Z80.Lemmas.Word
import Z80.Lemmas.Enum
import Z80.Lemmas.Bus
import Z80.Model.Exec
namespace Z80

/-! ### flag byte <-> eight flags: a bijection with S Z H P/V N C at bits 7 6 4 2 1 0 -/

theorem C09_flags_toByte_ofByte (b : UInt8) : (Flags.ofByte b).toByte = b :=
  eq_of_beq (forall_u8 (p := fun b => (Flags.ofByte b).toByte == b) (by decide +kernel) b)

theorem C09_flags_ofByte_toByte (f : Flags) : Flags.ofByte f.toByte = f := by
  obtain ⟨s, z, b5, h, b3, p, n, c⟩ := f
  revert s z b5 h b3 p n c
  decide +kernel

/-- S, Z, H, P/V, N, C (and the two unused bits) sit at bits 7, 6, 4, 2, 1, 0 (5, 3) -/
theorem C09_flag_bits (f : Flags) :
    bitGet f.toByte 7 = f.s ∧ bitGet f.toByte 6 = f.z ∧ bitGet f.toByte 5 = f.b5 ∧ bitGet f.toByte 4 = f.h ∧
    bitGet f.toByte 3 = f.b3 ∧ bitGet f.toByte 2 = f.p ∧ bitGet f.toByte 1 = f.n ∧ bitGet f.toByte 0 = f.c := by
  -- `bitGet b 7` is the field `s` of `Flags.ofByte b` by definition (`1 <<< 7` evaluates to `0x80`), and so on
  have h := C09_flags_ofByte_toByte f
  exact ⟨congrArg Flags.s h, congrArg Flags.z h, congrArg Flags.b5 h, congrArg Flags.h h, congrArg Flags.b3 h,
    congrArg Flags.p h, congrArg Flags.n h, congrArg Flags.c h⟩

/-! ### pairs -/

theorem C09_bc (r : Regs) (v : UInt16) :
    (r.setBC v).getBC = v ∧ (r.setBC v).b = hiByte v ∧ (r.setBC v).c = loByte v ∧
    (r.setBC v) = { r with b := hiByte v, c := loByte v } :=
  ⟨mkWord_hi_lo v, rfl, rfl, rfl⟩

theorem C09_de (r : Regs) (v : UInt16) :
    (r.setDE v).getDE = v ∧ (r.setDE v).d = hiByte v ∧ (r.setDE v).e = loByte v ∧
    (r.setDE v) = { r with d := hiByte v, e := loByte v } :=
  ⟨mkWord_hi_lo v, rfl, rfl, rfl⟩

theorem C09_hl (r : Regs) (v : UInt16) :
    (r.setHL v).getHL = v ∧ (r.setHL v).h = hiByte v ∧ (r.setHL v).l = loByte v ∧
    (r.setHL v) = { r with h := hiByte v, l := loByte v } :=
  ⟨mkWord_hi_lo v, rfl, rfl, rfl⟩

theorem C09_ix (r : Regs) (v : UInt16) :
    (r.setIX v).getIX = v ∧ (r.setIX v).ixh = hiByte v ∧ (r.setIX v).ixl = loByte v ∧
    (r.setIX v) = { r with ixh := hiByte v, ixl := loByte v } :=
  ⟨mkWord_hi_lo v, rfl, rfl, rfl⟩

theorem C09_iy (r : Regs) (v : UInt16) :
    (r.setIY v).getIY = v ∧ (r.setIY v).iyh = hiByte v ∧ (r.setIY v).iyl = loByte v ∧
    (r.setIY v) = { r with iyh := hiByte v, iyl := loByte v } :=
  ⟨mkWord_hi_lo v, rfl, rfl, rfl⟩

theorem C09_af (r : Regs) (v : UInt16) :
    (r.setAF v).getAF = v ∧ (r.setAF v).a = hiByte v ∧ (r.setAF v).flags.toByte = loByte v ∧
    (r.setAF v) = { r with a := hiByte v, flags := Flags.ofByte (loByte v) } := by
  refine ⟨?_, rfl, C09_flags_toByte_ofByte _, rfl⟩
  show mkWord (hiByte v) (Flags.ofByte (loByte v)).toByte = v
  rw [C09_flags_toByte_ofByte, mkWord_hi_lo]

/-- reading a pair is exactly `high << 8 | low` of the two halves; setting what was read changes nothing -/
theorem C09_get_halves (r : Regs) :
    r.getBC = (r.b.toUInt16 <<< 8) ||| r.c.toUInt16 ∧ r.getDE = (r.d.toUInt16 <<< 8) ||| r.e.toUInt16 ∧
    r.getHL = (r.h.toUInt16 <<< 8) ||| r.l.toUInt16 ∧ r.getIX = (r.ixh.toUInt16 <<< 8) ||| r.ixl.toUInt16 ∧
    r.getIY = (r.iyh.toUInt16 <<< 8) ||| r.iyl.toUInt16 ∧ r.getAF = (r.a.toUInt16 <<< 8) ||| r.flags.toByte.toUInt16 :=
  ⟨rfl, rfl, rfl, rfl, rfl, rfl⟩

theorem C09_set_get (r : Regs) :
    r.setBC r.getBC = r ∧ r.setDE r.getDE = r ∧ r.setHL r.getHL = r ∧ r.setIX r.getIX = r ∧ r.setIY r.getIY = r ∧
    r.setAF r.getAF = r := by
  simp only [Regs.setBC, Regs.getBC, Regs.setDE, Regs.getDE, Regs.setHL, Regs.getHL, Regs.setIX, Regs.getIX,
    Regs.setIY, Regs.getIY, Regs.setAF, Regs.getAF, hiByte_mkWord, loByte_mkWord, C09_flags_ofByte_toByte, and_self]

/-! ### AF transport through the instructions -/

/-- EX AF,AF' swaps A and all eight flag bits with the alternate set, and nothing else but PC -/
theorem C09_ex_af (a : Arch) (len : UInt16) :
    (exec .exAF len a).reg.a = a.alt.a ∧ (exec .exAF len a).reg.flags = a.alt.flags ∧
    (exec .exAF len a).alt.a = a.reg.a ∧ (exec .exAF len a).alt.flags = a.reg.flags ∧
    (exec .exAF len a).reg = { a.reg with a := a.alt.a, flags := a.alt.flags, pc := a.reg.pc + len } ∧
    (exec .exAF len a).alt = { a.alt with a := a.reg.a, flags := a.reg.flags } ∧
    (exec .exAF len a).bus = a.bus := by
  simp only [exec.eq_def, Regs.setAF, Regs.getAF, hiByte_mkWord, loByte_mkWord, C09_flags_ofByte_toByte, and_self]

/-- EXX swaps BC, DE, HL with their alternates exactly -/
theorem C09_exx (a : Arch) (len : UInt16) :
    (exec .exx len a).reg = { a.reg with b := a.alt.b, c := a.alt.c, d := a.alt.d, e := a.alt.e, h := a.alt.h, l := a.alt.l,
                                          pc := a.reg.pc + len } ∧
    (exec .exx len a).alt = { a.alt with b := a.reg.b, c := a.reg.c, d := a.reg.d, e := a.reg.e, h := a.reg.h, l := a.reg.l } := by
  simp only [exec.eq_def, Regs.setBC, Regs.getBC, Regs.setDE, Regs.getDE, Regs.setHL, Regs.getHL, hiByte_mkWord, loByte_mkWord,
    and_self]

/-- PUSH AF stores F (all eight bits) at SP-2 and A at SP-1; POP AF reloads exactly them.
    Hypothesis: the two stack bytes are writable (inside memory, outside ROM). -/
theorem C09_push_pop_af (a : Arch) (l1 l2 : UInt16)
    (h0 : a.bus.writable (a.reg.sp - 2)) (h1 : a.bus.writable (a.reg.sp - 1)) :
    let a1 := exec (.push .af) l1 a
    let a2 := exec (.pop .af) l2 a1
    a1.bus.readByte (a.reg.sp - 2) = a.reg.flags.toByte ∧ a1.bus.readByte (a.reg.sp - 1) = a.reg.a ∧
    a2.reg.a = a.reg.a ∧ a2.reg.flags = a.reg.flags ∧ a2.reg.sp = a.reg.sp := by
  rw [← Bus.sub_two_add_one] at h1 ⊢
  -- POP AF sets AF to the word it reads at SP-2, which is the AF that PUSH AF stored there
  have hw : (exec (.push .af) l1 a).bus.readWord (exec (.push .af) l1 a).reg.sp = a.reg.getAF :=
    Bus.readWord_writeWord _ _ _ h0 h1
  have hAF : a.reg.setAF a.reg.getAF = a.reg := (C09_set_get a.reg).2.2.2.2.2
  refine ⟨?_, ?_, ?_, ?_, UInt16.sub_add_cancel _ _⟩
  · exact (Bus.readByte_writeWord_lo _ _ _ h0).trans (loByte_mkWord _ _)
  · exact (Bus.readByte_writeWord_hi _ _ _ h1).trans (hiByte_mkWord _ _)
  · exact (congrArg hiByte hw).trans (congrArg Regs.a hAF)
  · exact (congrArg (fun w => Flags.ofByte (loByte w)) hw).trans (congrArg Regs.flags hAF)

/-- non-vacuity: a concrete register file, all views agree -/
example : ({ b := 0x12, c := 0x34 } : Regs).getBC = 0x1234 ∧ (({} : Regs).setAF 0xA5D7).flags.toByte = 0xD7 ∧
    (({} : Regs).setAF 0xA5FF).flags = ⟨true, true, true, true, true, true, true, true⟩ := by decide

end Z80
