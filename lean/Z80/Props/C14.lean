/-
  C14 — HALT idles without side effects until an interrupt resumes after it.
  For every architectural state; `a.reg.pc` of a halted CPU is the address of the HALT itself
  (the instruction does not advance PC), `pc + 1` the address of the following instruction.
-/
import Z80.Lemmas.Block
import Z80.Lemmas.Bus
import Z80.Props.C11
import Z80.Props.C13
namespace Z80

/-- HALT sets the halt latch and changes nothing else (PC stays on the HALT) -/
theorem C14_enter (len : UInt16) (a : Arch) : exec .halt len a = { a with halt := true } := rfl

/-- a step spent halted with no acceptable request reports 4 T-states and changes nothing -/
theorem C14_idle (a : Arch) (hh : a.halt = true) (hn : a.nmi = false) (hi : a.int = none ∨ a.iff1 = false) :
    stepArch a = (a, 4, none) :=
  stepArch_idle a (by rcases hi with hi | hi <;> simp [Arch.wakes, hh, hn, hi])

/-- ... for any number of idle steps -/
theorem C14_idle_n (n : Nat) (a : Arch) (hh : a.halt = true) (hn : a.nmi = false) (hi : a.int = none ∨ a.iff1 = false) :
    iter (fun s => (stepArch s).1) n a = a := by
  induction n with
  | zero => rfl
  | succ n ih => simp only [iter]; rw [C14_idle a hh hn hi]; exact ih

/-- a non-maskable request ends the halt: the handler at 0x0066 is entered with the address after
    the HALT pushed, IFF1 saved to IFF2 and cleared; a simultaneous maskable request is dropped -/
theorem C14_wake_nmi (a : Arch) (hh : a.halt = true) (hn : a.nmi = true) :
    preDispatch a =
      { ((({ a with halt := false } : Arch).pushWord (a.reg.pc + 1)).setPC 0x0066) with
          iff2 := a.iff1, iff1 := false, nmi := false, int := none } ∧
    (stepArch a).1 = (dispatch (preDispatch a)).1 := by
  obtain ⟨h1, h2⟩ := C13_accept a hn
  refine ⟨?_, h2⟩
  rw [h1, wake_eq, hh]; rfl

/-- an enabled maskable request ends the halt: acceptance happens in the state whose PC is the
    address after the HALT, so that is the return address pushed by the RST / the mode-2 vectoring -/
theorem C14_wake_int (a : Arch) (b : UInt8) (hh : a.halt = true) (hn : a.nmi = false) (hi : a.iff1 = true)
    (hb : a.int = some b) :
    preDispatch a = acceptInt { a.setPC (a.reg.pc + 1) with halt := false } b ∧
    (stepArch a).1 = (dispatch (preDispatch a)).1 ∧ (preDispatch a).halt = false := by
  obtain ⟨h1, h2, _⟩ := C11_enabled a b hi hn hb
  have hw : resumed a = { a.setPC (a.reg.pc + 1) with halt := false } := by
    show wake a = _; rw [wake_eq, hh]; rfl
  rw [hw] at h1
  exact ⟨h1, h2, h1 ▸ (acceptInt_ctl _ b).2.2.1⟩

/-- so that returning continues after the HALT: NMI wake-up followed by RETN lands on HALT + 1 with SP
    restored (the two stack bytes must be writable) -/
theorem C14_resume_after_halt (a : Arch) (len : UInt16) (hh : a.halt = true) (hn : a.nmi = true)
    (h0 : a.bus.writable (a.reg.sp - 2)) (h1 : a.bus.writable (a.reg.sp - 2 + 1)) :
    (exec .retn len (preDispatch a)).reg.pc = a.reg.pc + 1 ∧ (exec .retn len (preDispatch a)).reg.sp = a.reg.sp ∧
    (exec .retn len (preDispatch a)).halt = false := by
  rw [(C14_wake_nmi a hh hn).1]
  exact ⟨Bus.readWord_writeWord _ _ _ h0 h1, UInt16.sub_add_cancel _ _, rfl⟩

/-- a maskable request while interrupts are disabled does not end the halt -/
theorem C14_masked (a : Arch) (b : UInt8) (hh : a.halt = true) (hn : a.nmi = false) (hi : a.iff1 = false) :
    stepArch { a with int := some b } = ({ a with int := some b }, 4, none) :=
  C14_idle _ hh hn (Or.inr hi)

/-- non-vacuity: HALT at 0xFFFF on a 64 KiB bus woken by NMI pushes 0x0000 -/
example :
    let a : Arch := { bus := { mem := #[0, 0, 0, 0] }, reg := { pc := 0xFFFF, sp := 4 }, halt := true, nmi := true }
    (preDispatch a).reg.pc = 0x66 ∧ (preDispatch a).bus.mem = #[0, 0, 0, 0] ∧ (preDispatch a).reg.sp = 2 := by decide

end Z80
