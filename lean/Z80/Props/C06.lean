/-
  C06 — No machine state aborts the emulator; 16-bit addresses wrap like hardware.
  What is a theorem here: every address computation of the model is the modular one, for all
  2^24 (base, displacement) pairs and every address, including 0xFFFF and the top address of any
  memory size; and the model functions are total (they are Lean functions without an error value:
  `step`, `dasm`, every bus accessor are defined on every state, size and address).
  What is NOT a theorem: that the Rust code does not panic.  A hand-written model does not contain
  the implementation's arithmetic sites; an abort is an observable outcome of the correspondence
  run (overflow-checked and wrapping builds), and the model never produces one.
-/
import Z80.Lemmas.Pc
import Z80.Lemmas.Bus
import Z80.Lemmas.Rows
namespace Z80

/-- indexed effective address = IX/IY + sign-extended displacement modulo 65,536 -/
theorem C06_indexed (a : Arch) (d : UInt8) :
    a.addrOf (.idx .ix d) = a.reg.getIX + sext d ∧ a.addrOf (.idx .iy d) = a.reg.getIY + sext d :=
  ⟨displace_eq _ _, displace_eq _ _⟩

/-- relative-jump target (interpreter and disassembler) = address + 2 + sign-extended displacement -/
theorem C06_relative (pc : UInt16) (e : UInt8) :
    relTarget pc e = pc + 2 + sext e ∧ dasmRel pc e = pc + 2 + sext e := ⟨relTarget_eq _ _, dasmRel_eq _ _⟩

/-- sign extension really is two's complement: e < 128 counts forwards, e >= 128 backwards by 256 - e -/
theorem C06_sext (pc : UInt16) (e : UInt8) :
    (pc + sext e).toNat = (if e.toNat < 128 then pc.toNat + e.toNat else pc.toNat + 65536 - (256 - e.toNat)) % 65536 := by
  have := e.toNat_lt
  rw [UInt16.toNat_add, sext_toNat]
  split <;> omega

/-- operand fetches, PC advance and stack accesses are plain modular additions -/
theorem C06_fetch_and_stack (a : Arch) (w : UInt16) :
    (decode a.bus a.reg.pc (firstByte a)).len.toNat ≤ 4 ∧
    (a.pushWord w).reg.sp = a.reg.sp - 2 ∧ a.popWord.2.reg.sp = a.reg.sp + 2 := by
  exact ⟨(decode_len _ _ _).2, rfl, rfl⟩

/-- word access at 0xFFFF and at the top address: the second byte comes from address 0 / reads 0 -/
theorem C06_word_edges (b : Bus) :
    b.readWord 0xFFFF = mkWord (b.readByte 0) (b.readByte 0xFFFF) ∧
    (∀ a : UInt16, a.toNat + 1 = b.mem.size → a ≠ 0xFFFF → b.readWord a = mkWord 0 (b.readByte a)) := by
  refine ⟨rfl, ?_⟩
  intro a h hne
  unfold Bus.readWord
  rw [Bus.readByte_above_top b (a + 1)]
  rw [UInt16.toNat_add]
  have : a.toNat ≠ 65535 := fun hh => hne (UInt16.toNat_inj.mp (by simpa using hh))
  have := a.toNat_lt
  simp; omega

/-- the model is total: every state has an outcome, every address a disassembly, every access a value -/
theorem C06_total (c : Cpu) (addr : UInt16) :
    (∃ r, step c = r) ∧ (∃ t, dasm c.arch addr = t) ∧ (∃ v, c.arch.bus.readLeDword addr = v) :=
  ⟨⟨_, rfl⟩, ⟨_, rfl⟩, ⟨_, rfl⟩⟩

/-- non-vacuity: LD A,(IX-1) with IX = 0 reads 0xFFFF; JR -2 at 0x0000 stays at 0x0000 -/
example : displace 0 0xFF = 0xFFFF ∧ relTarget 0 0xFE = 0 ∧ relTarget 0xFFFF 0x7F = 0x0080 := by decide

end Z80
