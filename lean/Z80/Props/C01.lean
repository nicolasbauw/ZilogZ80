/-
  C01 — Each implemented instruction updates registers and memory per the Z80 specification.

  Full-strength statement: for every instruction i and state x,
      RM (exec i len x) = RM (Spec.apply i x)
  where RM = the registers C01 names (A B C D E H L IXH IXL IYH IYL I SP and the alternate bank, i.e.
  everything but F, PC, R) + the whole bus, and `Spec.effects` (Z80/Spec/Effects.lean) is a second,
  independent semantics: the manual's operation line of each class as parallel assignments to named
  registers plus byte stores, with arithmetic from `Spec.Arith` (natural numbers).

    * C01_full            : that equation for every instruction with a single defined operation
                            (`Spec.defined`: all but the four repeating block instructions, DAA on an
                            accumulator outside the manual's table, and two non-encodable forms);
    * C01_decoded_defined : every instruction the decoder can produce is encodable in that sense, so
                            `defined` only excludes the repeats and DAA outside its table;
    * C01_block_step, C01_repeat : the repeating block instructions are their single-step form
                            (specified by C01_full) iterated; the count is C19's;
    * C01_frame_*         : the footprint reading (registers / cells outside the specified write set
                            are unchanged), also for the repeats;
    * the older per-class value laws (C01_ld8 ... C01_add_idx) are kept: they are the same facts in the
      model's own vocabulary.
  Not covered by any C01 theorem: the value DAA leaves in A when A is not the result of a BCD
  operation (the manual defines none; the sweep compares the implementation with the model there).
-/
import Z80.Lemmas.Frame
import Z80.Lemmas.Pc
import Z80.Lemmas.EffectsSound
import Z80.Lemmas.Rows
import Z80.Props.C02
import Z80.Props.C19
import Z80.Lemmas.Step
namespace Z80
open Spec

/-- every instruction: a register it is not specified to write keeps its value -/
theorem C01_frame_regs (i : Instr) (len : UInt16) (x : Arch) (r : RegName) (h : r ∉ regsWritten i) :
    getReg (exec i len x) r = getReg x r := frame_regs i len x r h

/-- every non-repeating instruction: a memory cell it is not specified to write keeps its value -/
theorem C01_frame_mem (i : Instr) (len : UInt16) (x : Arch) (addr : UInt16) (hb : isBlockLoad i = false)
    (h : addr ∉ addrsWritten i x) : (exec i len x).bus.readByte addr = x.bus.readByte addr :=
  frame_mem i len x addr hb h

/-- LDIR / LDDR: only the destination range DE, DE±1, .. (BC cells; 65,536 when BC = 0) may change -/
theorem C01_frame_block (up : Bool) (len : UInt16) (x : Arch) (addr : UInt16)
    (h : ∀ k, k < blockCount x.reg.getBC → addr ≠ destAddr up x.reg.getDE k) :
    (exec (if up then .ldir else .lddr) len x).bus.readByte addr = x.bus.readByte addr := by
  rw [exec_ldRepeat, Arch.setPC_bus]
  exact (iter_ldStep_stores up _ x).frame addr (fun ⟨k, hk, e⟩ => h k hk e)

/-! ### value laws -/

/-- LD dst,src (all 8-bit load forms: r,r' / r,n / r,(HL) / (HL),r / (HL),n / (IX+d) / A,(BC) / (nn),A ...):
    the destination holds the source operand's value as read before the step -/
theorem C01_ld8 (dst : Loc8) (src : Op8) (len : UInt16) (x : Arch) :
    match dst with
    | .reg r => (exec (.ld8 dst src) len x).reg.get8 r = x.readOp src
    | .mem m => x.bus.writable (x.addrOf m) → (exec (.ld8 dst src) len x).bus.readByte (x.addrOf m) = x.readOp src := by
  cases dst with
  | reg r => cases r <;> rfl
  | mem m => intro hw; exact Bus.readByte_writeByte_same _ _ _ hw

/-- the memory operand of the indexed forms is at IX/IY + sign-extended displacement -/
theorem C01_indexed_operand (x : Arch) (d : UInt8) :
    x.read8 (.mem (.idx .ix d)) = x.bus.readByte (x.reg.getIX + sext d) ∧
    x.read8 (.mem (.idx .iy d)) = x.bus.readByte (x.reg.getIY + sext d) := by
  constructor <;> (show x.bus.readByte (displace _ _) = _; rw [displace_eq])

/-- LD dd,nn / LD dd,(nn) / LD (nn),dd / LD SP,HL -/
theorem C01_ld16 (dst src : R16) (nn len : UInt16) (x : Arch) (hd : dst ≠ .af) :
    (exec (.ld16 dst nn) len x).reg.get16 dst = nn ∧
    (exec (.ld16m dst nn) len x).reg.get16 dst = x.bus.readWord nn ∧
    (exec (.st16m nn src) len x).bus = x.bus.writeWord nn (x.reg.get16 src) ∧
    (exec (.ldSP src) len x).reg.sp = x.reg.get16 src :=
  ⟨Regs.get16_set16 _ dst nn _ _ hd, Regs.get16_set16 _ dst _ _ _ hd, rfl, rfl⟩

/-- PUSH qq: (SP-2) <- low, (SP-1) <- high, SP <- SP-2;  POP qq: the reverse -/
theorem C01_push_pop (r : R16) (len : UInt16) (x : Arch) :
    (exec (.push r) len x).reg.sp = x.reg.sp - 2 ∧
    (exec (.push r) len x).bus = x.bus.writeWord (x.reg.sp - 2) (x.reg.get16 r) ∧
    (exec (.pop r) len x).reg.sp = (if r = .sp then x.bus.readWord x.reg.sp else x.reg.sp + 2) ∧
    (r ≠ .af → r ≠ .sp → (exec (.pop r) len x).reg.get16 r = x.bus.readWord x.reg.sp) := by
  refine ⟨rfl, rfl, ?_, fun h1 _ => Regs.get16_set16 _ r _ _ _ h1⟩
  cases r <;> rfl

/-- EX DE,HL / EX (SP),HL|IX|IY -/
theorem C01_exchange (r : R16) (len : UInt16) (x : Arch) (hr : r = .hl ∨ r = .ix ∨ r = .iy) :
    (exec .exDEHL len x).reg.getDE = x.reg.getHL ∧ (exec .exDEHL len x).reg.getHL = x.reg.getDE ∧
    (exec (.exSP r) len x).reg.get16 r = x.bus.readWord x.reg.sp ∧
    (exec (.exSP r) len x).bus = x.bus.writeWord x.reg.sp (x.reg.get16 r) ∧
    (exec (.exSP r) len x).reg.sp = x.reg.sp := by
  have ha : r ≠ .af := by rintro rfl; simp at hr
  refine ⟨mkWord_hi_lo _, mkWord_hi_lo _, Regs.get16_set16 _ r _ _ _ ha, rfl, ?_⟩
  rcases hr with h | h | h <;> subst h <;> rfl

/-- LDI / LDD: (DE) <- (HL), DE±1, HL±1, BC-1 — all from the values before the step -/
theorem C01_ldi (up : Bool) (x : Arch) :
    (ldStep up x).bus = x.bus.writeByte x.reg.getDE (x.bus.readByte x.reg.getHL) ∧
    (ldStep up x).reg.getDE = (if up then x.reg.getDE + 1 else x.reg.getDE - 1) ∧
    (ldStep up x).reg.getHL = (if up then x.reg.getHL + 1 else x.reg.getHL - 1) ∧
    (ldStep up x).reg.getBC = x.reg.getBC - 1 :=
  ⟨rfl, ldStep_de up x, ldStep_hl up x, ldStep_bc up x⟩

/-- CPI / CPD: HL±1, BC-1, memory and A unchanged -/
theorem C01_cpi (up : Bool) (x : Arch) :
    (cpStep up x).bus = x.bus ∧ (cpStep up x).reg.a = x.reg.a ∧
    (cpStep up x).reg.getHL = (if up then x.reg.getHL + 1 else x.reg.getHL - 1) ∧
    (cpStep up x).reg.getBC = x.reg.getBC - 1 :=
  ⟨rfl, rfl, cpStep_hl up x, cpStep_bc up x⟩

/-- read-modify-write on a memory operand: the cell receives the core's result computed from its old
    content (INC/DEC/rotates/SET/RES on (HL) and (IX+d)) -/
theorem C01_rmw_mem (m : MemRef) (op : RotOp) (b : UInt8) (len : UInt16) (x : Arch) (hw : x.bus.writable (x.addrOf m)) :
    let old := x.bus.readByte (x.addrOf m)
    (exec (.inc8 (.mem m)) len x).bus.readByte (x.addrOf m) = old + 1 ∧
    (exec (.dec8 (.mem m)) len x).bus.readByte (x.addrOf m) = old - 1 ∧
    (exec (.rot op (.mem m)) len x).bus.readByte (x.addrOf m) = (rotApply op old x.reg.flags).1 ∧
    (exec (.set b (.mem m)) len x).bus.readByte (x.addrOf m) = bitSet old b ∧
    (exec (.res b (.mem m)) len x).bus.readByte (x.addrOf m) = bitReset old b := by
  have e : ∀ f v n, (((x.setFlags f).write8 (.mem m) v).setPC n).bus.readByte (x.addrOf m) = v := fun f v n => by
    rw [x.write8_setFlags]; exact Bus.readByte_writeByte_same _ _ _ hw
  exact ⟨e _ _ _, e _ _ _, e _ _ _, Bus.readByte_writeByte_same _ _ _ hw, Bus.readByte_writeByte_same _ _ _ hw⟩

/-- INC ss / DEC ss / register-to-register moves are plain modular arithmetic on the pair -/
theorem C01_inc16 (r : R16) (len : UInt16) (x : Arch) (hr : r ≠ .af) :
    (exec (.inc16 r) len x).reg.get16 r = x.reg.get16 r + 1 ∧ (exec (.dec16 r) len x).reg.get16 r = x.reg.get16 r - 1 :=
  ⟨Regs.get16_set16 _ r _ _ _ hr, Regs.get16_set16 _ r _ _ _ hr⟩

/-! ### arithmetic results written to registers (values from C02's theorems) -/

/-- 8-bit arithmetic/logic: A receives the specified result of `A op operand` (CP leaves A alone) -/
theorem C01_alu (src : Op8) (len : UInt16) (x : Arch) :
    let a := x.reg.a.toNat
    let n := (x.readOp src).toNat
    let c := Spec.b2n x.reg.flags.c
    (exec (.alu .add src) len x).reg.a.toNat = (Spec.addW 8 a n 0).r ∧
    (exec (.alu .adc src) len x).reg.a.toNat = (Spec.addW 8 a n c).r ∧
    (exec (.alu .sub src) len x).reg.a.toNat = (Spec.subW 8 a n 0).r ∧
    (exec (.alu .sbc src) len x).reg.a.toNat = (Spec.subW 8 a n c).r ∧
    (exec (.alu .and src) len x).reg.a.toNat = a &&& n ∧
    (exec (.alu .or src) len x).reg.a.toNat = a ||| n ∧
    (exec (.alu .xor src) len x).reg.a.toNat = a ^^^ n ∧
    (exec (.alu .cp src) len x).reg.a = x.reg.a := by
  have e := fun op => alu_toNat op x.reg.a (x.readOp src) x.reg.flags
  exact ⟨e .add, e .adc, e .sub, e .sbc, e .and, e .or, e .xor, rfl⟩

/-- 16-bit arithmetic: HL (IX, IY) receives the sum / difference modulo 65,536 -/
theorem C01_arith16 (src : R16) (len : UInt16) (x : Arch) :
    let h := x.reg.getHL.toNat
    let n := (x.reg.get16 src).toNat
    let c := Spec.b2n x.reg.flags.c
    (exec (.add16 .hl src) len x).reg.getHL.toNat = (Spec.addW 16 h n 0).r ∧
    (exec (.adc16 src) len x).reg.getHL.toNat = (Spec.addW 16 h n c).r ∧
    (exec (.sbc16 src) len x).reg.getHL.toNat = (Spec.subW 16 h n c).r := by
  have e : ∀ w f n, ({ x.reg.setHL w with flags := f, pc := n } : Regs).getHL = w := fun w f n =>
    Regs.get16_set16 _ .hl w f n (by decide)
  exact ⟨(congrArg _ (e _ _ _)).trans (C02_add16 _ _ x.reg.flags).1, (congrArg _ (e _ _ _)).trans (C02_adc16 _ _ x.reg.flags).1,
    (congrArg _ (e _ _ _)).trans (C02_sbc16 _ _ x.reg.flags).1⟩

/-- the remaining single-register results: INC/DEC r, NEG, CPL, LD A,I / LD A,R / LD I,A, DJNZ's B -/
theorem C01_misc (r : R8) (e : UInt8) (len : UInt16) (x : Arch) :
    (exec (.inc8 (.reg r)) len x).reg.get8 r = x.reg.get8 r + 1 ∧
    (exec (.dec8 (.reg r)) len x).reg.get8 r = x.reg.get8 r - 1 ∧
    (exec .neg len x).reg.a = 0 - x.reg.a ∧ (exec .cpl len x).reg.a = ~~~x.reg.a ∧
    (exec .ldAI len x).reg.a = x.reg.i ∧ (exec .ldAR len x).reg.a = x.reg.r ∧ (exec .ldIA len x).reg.i = x.reg.a ∧
    (exec (.djnz e) len x).reg.b = x.reg.b - 1 := by
  refine ⟨?_, ?_, ?_, rfl, rfl, rfl, rfl, ite_ind (P := fun y : Arch => y.reg.b = x.reg.b - 1) rfl rfl⟩
  · cases r <;> rfl
  · cases r <;> rfl
  · show ~~~x.reg.a + 1 = 0 - x.reg.a
    apply UInt8.eq_of_toBitVec_eq; simp [BitVec.neg_eq_not_add]

/-- rotates / SET / RES on a register, the accumulator rotates and DAA write the core's result back;
    RLD / RRD write A and (HL) with the specified nibble moves (C02_rld / C02_rrd give their values) -/
theorem C01_rot_reg (r : R8) (op : RotOp) (b : UInt8) (len : UInt16) (x : Arch) :
    (exec (.rot op (.reg r)) len x).reg.get8 r = (rotApply op (x.reg.get8 r) x.reg.flags).1 ∧
    (exec (.set b (.reg r)) len x).reg.get8 r = bitSet (x.reg.get8 r) b ∧
    (exec (.res b (.reg r)) len x).reg.get8 r = bitReset (x.reg.get8 r) b ∧
    (exec .rlca len x).reg.a = (Alu.rlca x.reg.a x.reg.flags).1 ∧ (exec .rla len x).reg.a = (Alu.rla x.reg.a x.reg.flags).1 ∧
    (exec .rrca len x).reg.a = (Alu.rrca x.reg.a x.reg.flags).1 ∧ (exec .rra len x).reg.a = (Alu.rra x.reg.a x.reg.flags).1 ∧
    (exec .daa len x).reg.a = (Alu.daa x.reg.a x.reg.flags).1 := by
  refine ⟨?_, ?_, ?_, rfl, rfl, rfl, rfl, rfl⟩ <;> (cases r <;> rfl)

theorem C01_rld_rrd (len : UInt16) (x : Arch) (hw : x.bus.writable x.reg.getHL) :
    let m := x.bus.readByte x.reg.getHL
    (exec .rld len x).reg.a.toNat = (Spec.rld x.reg.a.toNat m.toNat).1 ∧
    ((exec .rld len x).bus.readByte x.reg.getHL).toNat = (Spec.rld x.reg.a.toNat m.toNat).2 ∧
    (exec .rrd len x).reg.a.toNat = (Spec.rrd x.reg.a.toNat m.toNat).1 ∧
    ((exec .rrd len x).bus.readByte x.reg.getHL).toNat = (Spec.rrd x.reg.a.toNat m.toNat).2 := by
  obtain ⟨l1, l2, _⟩ := C02_rld x.reg.a (x.bus.readByte x.reg.getHL) x.reg.flags
  obtain ⟨r1, r2, _⟩ := C02_rrd x.reg.a (x.bus.readByte x.reg.getHL) x.reg.flags
  exact ⟨l1, (congrArg _ (Bus.readByte_writeByte_same _ _ _ hw)).trans l2,
    r1, (congrArg _ (Bus.readByte_writeByte_same _ _ _ hw)).trans r2⟩

/-- ADD IX,pp / ADD IY,rr: the index register receives the 16-bit sum -/
theorem C01_add_idx (src : R16) (len : UInt16) (x : Arch) :
    (exec (.add16 .ix src) len x).reg.getIX.toNat = (Spec.addW 16 x.reg.getIX.toNat (x.reg.get16 src).toNat 0).r ∧
    (exec (.add16 .iy src) len x).reg.getIY.toNat = (Spec.addW 16 x.reg.getIY.toNat (x.reg.get16 src).toNat 0).r :=
  ⟨(congrArg _ (Regs.get16_set16 _ .ix _ _ _ (by decide))).trans (C02_add16 _ _ x.reg.flags).1,
   (congrArg _ (Regs.get16_set16 _ .iy _ _ _ (by decide))).trans (C02_add16 _ _ x.reg.flags).1⟩

/-- summary of the footprint part of C01 -/
theorem C01_frame (i : Instr) (len : UInt16) (x : Arch) :
    (∀ r, r ∉ regsWritten i → getReg (exec i len x) r = getReg x r) ∧
    (isBlockLoad i = false → ∀ addr, addr ∉ addrsWritten i x → (exec i len x).bus.readByte addr = x.bus.readByte addr) :=
  ⟨fun r h => frame_regs i len x r h, fun hb addr h => frame_mem i len x addr hb h⟩

/-! ### the full statement against the second semantics -/

/-- every register C01 names and the whole bus after the step are what the manual's operation says,
    computed from the state before the step -/
theorem C01_full (i : Instr) (len : UInt16) (x : Arch) (hd : Spec.defined i x) :
    (∀ r, getReg (exec i len x) r = Spec.assign (Spec.effects i (x.reg.pc + len) x).regs (getReg x) r) ∧
    (exec i len x).bus = Spec.store (Spec.effects i (x.reg.pc + len) x).mem x.bus :=
  effects_sound i len x hd

/-- whatever bytes are in memory, the decoded instruction is one `Spec.defined` accepts unless it is a
    repeating block instruction or DAA (whose table decides) -/
theorem C01_decoded_defined (bus : Bus) (pc : UInt16) (first : UInt8) (x : Arch)
    (hr : (decode bus pc first).instr ∉ [Instr.ldir, .lddr, .cpir, .cpdr, .daa]) :
    Spec.defined (decode bus pc first).instr x := by
  have hw := decode_wf bus pc first
  generalize (decode bus pc first).instr = i at hr hw
  cases i
  case ldir | lddr | cpir | cpdr | daa => exact absurd (by simp) hr
  case pop => exact fun e => by subst e; cases hw
  case set b _ | res b _ => exact of_decide_eq_true (p := b.toNat < 8) hw
  all_goals trivial

/-- the same for every `execute` step that is not an idle halted one: the interrupt prologue `preDispatch`, then the
    operation of the instruction selected in the state `a'` it leaves (by the latched byte of an accepted mode-0/1
    request, else by the bytes at PC), from the registers and bus of `a'` -/
theorem stepArch_sound (a : Arch) (hrun : (a.halt && !a.wakes) = false) :
    let a' := preDispatch a
    let d := decode a'.bus a'.reg.pc (firstByte a')
    Spec.defined d.instr a' →
    (∀ r, getReg (stepArch a).1 r =
      Spec.assign (Spec.effects d.instr (a'.reg.pc + effLen d a'.int) a').regs (getReg a') r) ∧
    (stepArch a).1.bus = Spec.store (Spec.effects d.instr (a'.reg.pc + effLen d a'.int) a').mem a'.bus := by
  intro a' d hd
  rw [stepArch_running a hrun]
  exact ⟨fun r => (getReg_ctl _ _ _ _ _ _ r).trans ((effects_sound d.instr _ a' hd).1 r), (effects_sound d.instr _ a' hd).2⟩

/-- with no request pending: the instruction is the one decoded from the bytes at PC, `ret` is PC + its encoded length -/
theorem C01_step (a : Arch) (h : a.quiet) :
    let d := decode a.bus a.reg.pc (a.bus.readByte a.reg.pc)
    Spec.defined d.instr a →
    (∀ r, getReg (stepArch a).1 r = Spec.assign (Spec.effects d.instr (a.reg.pc + d.len) a).regs (getReg a) r) ∧
    (stepArch a).1.bus = Spec.store (Spec.effects d.instr (a.reg.pc + d.len) a).mem a.bus := by
  have hs := stepArch_sound a (by simp [h.1])
  simp only [preDispatch_quiet a h, firstByte, h.2.2, effLen_none] at hs
  exact hs

/-- LDI / LDD / CPI / CPD without the PC advance: the step the repeating forms iterate -/
theorem C01_block_step (up : Bool) (ret : UInt16) (x : Arch) :
    ((∀ r, getReg (ldStep up x) r = Spec.assign (Spec.effects (if up then .ldi else .ldd) ret x).regs (getReg x) r) ∧
      (ldStep up x).bus = Spec.store (Spec.effects (if up then .ldi else .ldd) ret x).mem x.bus) ∧
    ((∀ r, getReg (cpStep up x) r = Spec.assign (Spec.effects (if up then .cpi else .cpd) ret x).regs (getReg x) r) ∧
      (cpStep up x).bus = x.bus) :=
  ⟨ldStep_sound up ret x, cpStep_sound up ret x, rfl⟩

/-- the repeating block instructions leave the registers and the bus of that step iterated: BC times
    (65,536 when BC = 0) for the loads, up to the first match or BC = 0 for the compares (C19) -/
theorem C01_repeat (len : UInt16) (x : Arch) :
    (∀ up : Bool, (∀ r, getReg (exec (if up then .ldir else .lddr) len x) r = getReg (iter (ldStep up) (blockCount x.reg.getBC) x) r) ∧
      (exec (if up then .ldir else .lddr) len x).bus = (iter (ldStep up) (blockCount x.reg.getBC) x).bus) ∧
    (∀ up : Bool, ∃ k, 0 < k ∧ k ≤ blockCount x.reg.getBC ∧
      (∀ r, getReg (exec (if up then .cpir else .cpdr) len x) r = getReg (iter (cpStep up) k x) r) ∧
      (exec (if up then .cpir else .cpdr) len x).bus = x.bus) := by
  refine ⟨fun up => ?_, fun up => ?_⟩
  · rw [exec_ldRepeat]; exact ⟨getReg_setPC _ _, Arch.setPC_bus _ _⟩
  · obtain ⟨k, h0, h1, h2, _⟩ := exec_cpRepeat up len x
    rw [h2]
    exact ⟨k, h0, h1, getReg_setPC _ _, (Arch.setPC_bus _ _).trans (iter_proj (·.bus) _ (cpStep_bus up) k x)⟩

/-- non-vacuity: EX (SP),HL on a concrete state -/
example :
    let x : Arch := { bus := { mem := #[0, 0, 0x34, 0x12] }, reg := { sp := 2, h := 0xAB, l := 0xCD } }
    (exec (.exSP .hl) 1 x).reg.getHL = 0x1234 ∧ (exec (.exSP .hl) 1 x).bus.mem = #[0, 0, 0xCD, 0xAB] ∧
    RegName.b ∉ regsWritten (.exSP .hl) := by decide

/-- non-vacuity of C01_full: DAA after 0x15 + 0x27 = 0x3C is a row of the manual's table; the specification
    says A becomes 0x42 -/
example :
    let x : Arch := { bus := { mem := #[0x27] }, reg := { a := 0x3C } }
    Spec.defined .daa x ∧ (Spec.effects .daa 1 x).regs = [(.a, 0x42)] ∧ (exec .daa 1 x).reg.a = 0x42 :=
  ⟨by show (Spec.daaTable _ _ _ _ _).isSome = true; decide, by decide, by decide⟩

end Z80
