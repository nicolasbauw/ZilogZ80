/-
  C10 — IX and IY forms of an instruction behave identically up to renaming.
  `swapI` renames IX <-> IY (and IXH/IXL <-> IYH/IYL) inside an instruction, `Arch.swapXY`
  exchanges the contents of IX and IY in a state.  For every second byte (DD/FD page), every fourth
  byte and displacement (DDCB/FDCB page), every operand byte and every machine state.
-/
import Z80.Lemmas.Swap
namespace Z80

/-- DD/FD page: whenever the FD row is implemented, it is the DD row with IX renamed to IY, and has
    the same length.  (The four rows INC/DEC IXH/IXL exist for IX only; the property excludes them.) -/
theorem C10_decode (op b2 b3 : UInt8) (h : (decodeIdx .iy op b2 b3).1 ≠ .unknown) :
    (decodeIdx .iy op b2 b3).1 = swapI (decodeIdx .ix op b2 b3).1 ∧
    (decodeIdx .iy op b2 b3).2 = (decodeIdx .ix op b2 b3).2 := by
  rw [decodeIdx_swap op b2 b3 h]; exact ⟨rfl, rfl⟩

/-- DDCB/FDCB page: every row, every displacement -/
theorem C10_decode_cb (d op : UInt8) :
    (decodeIdxCB .iy d op).1 = swapI (decodeIdxCB .ix d op).1 ∧ (decodeIdxCB .iy d op).2 = (decodeIdxCB .ix d op).2 := by
  rw [decodeIdxCB_swap d op]; exact ⟨rfl, rfl⟩

/-- executing the renamed instruction in the exchanged state gives the exchanged result: registers,
    flags, memory, PC, control state — one equation on the whole architectural state -/
theorem C10_exec (i : Instr) (len : UInt16) (a : Arch) : exec (swapI i) len a.swapXY = (exec i len a).swapXY :=
  exec_swap i len a

/-- exchanging twice is the identity, so this reads: FD form in the exchanged state, exchanged again
    = DD form -/
theorem C10_exec_back (i : Instr) (len : UInt16) (a : Arch) : (exec (swapI i) len a.swapXY).swapXY = exec i len a := by
  rw [exec_swap]; rfl

/-- the reported T-states agree: both pages read the same table row, and the conditional
    increments and the DDCB/FDCB constants do not look at the register names -/
theorem C10_cycles (i : Instr) (len : UInt16) (op : UInt8) (a : Arch) (hu : i ≠ .unknown) :
    instrCycles ⟨swapI i, len, .fd, op⟩ a.swapXY = instrCycles ⟨i, len, .dd, op⟩ a ∧
    instrCycles ⟨swapI i, len, .fdcb, op⟩ a.swapXY = instrCycles ⟨i, len, .ddcb, op⟩ a := by
  -- renaming changes neither which arm it is, nor the branch outcome, nor (DDCB/FDCB) whether it is a BIT
  have hu' : swapI i ≠ .unknown := by cases i <;> simp_all [swapI]
  have he : ∀ t, extraCycles (swapI i) t = extraCycles i t := fun t => by cases i <;> rfl
  have ht : taken (swapI i) a.swapXY = taken i a := by cases i <;> rfl
  have hc : tableCycles ⟨swapI i, len, .fdcb, op⟩ = tableCycles ⟨i, len, .ddcb, op⟩ := by cases i <;> rfl
  simp only [instrCycles, hu, hu', ↓reduceIte, he, ht, hc, and_true]
  rfl

/-- non-vacuity: LD A,(IX-1) / LD A,(IY-1) -/
example : (decodeIdx .ix 0x7E 0xFF 0).1 = .ld8 (.reg .a) (.loc (.mem (.idx .ix 0xFF))) ∧
    (decodeIdx .iy 0x7E 0xFF 0).1 = .ld8 (.reg .a) (.loc (.mem (.idx .iy 0xFF))) ∧
    (decodeIdx .iy 0x24 0 0).1 = .unknown := by decide

end Z80
