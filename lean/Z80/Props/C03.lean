/-
  C03 — PC, branch conditions and call/return linkage follow Z80 control-flow rules.
  For every instruction, every flag byte, every displacement, every PC/SP (UInt16 arithmetic is
  modulo 65,536, so the ends of the address space are included).  `len` is the encoded length
  that `decode` reports; C15/C05 relate it to the bytes.
-/
import Z80.Lemmas.Pc
import Z80.Lemmas.Bus
import Z80.Lemmas.Block
import Z80.Lemmas.Step
namespace Z80

/-- every non-transfer instruction: PC := address + encoded length -/
theorem C03_sequential (i : Instr) (len : UInt16) (a : Arch) (h : transfers i = false) :
    (exec i len a).reg.pc = a.reg.pc + len := exec_pc_seq i len a h

/-- the eight conditions test exactly Z, C, P/V, S -/
theorem C03_conditions (f : Flags) :
    condHolds f .nz = !f.z ∧ condHolds f .z = f.z ∧ condHolds f .nc = !f.c ∧ condHolds f .c = f.c ∧
    condHolds f .po = !f.p ∧ condHolds f .pe = f.p ∧ condHolds f .p = !f.s ∧ condHolds f .m = f.s :=
  ⟨rfl, rfl, rfl, rfl, rfl, rfl, rfl, rfl⟩

/-- unconditional and conditional absolute jumps -/
theorem C03_jp (cc : Cc) (nn len : UInt16) (a : Arch) :
    (exec (.jp nn) len a).reg.pc = nn ∧
    (exec (.jpcc cc nn) len a).reg.pc = (if condHolds a.reg.flags cc then nn else a.reg.pc + len) := by
  refine ⟨rfl, ?_⟩
  -- `exec.eq_def`, not `exec`: the 63 per-constructor equations are dear and made again in every proof that asks for them
  simp only [exec.eq_def]; split <;> rfl

/-- relative jumps: target = address of the following instruction + signed displacement -/
theorem C03_jr (cc : Cc) (e : UInt8) (len : UInt16) (a : Arch) :
    (exec (.jr e) len a).reg.pc = a.reg.pc + 2 + sext e ∧
    (exec (.jrcc cc e) len a).reg.pc = (if condHolds a.reg.flags cc then a.reg.pc + 2 + sext e else a.reg.pc + len) := by
  rw [← relTarget_eq]
  refine ⟨rfl, ?_⟩
  simp only [exec.eq_def]; split <;> rfl

/-- DJNZ: B := B - 1, jump exactly when the new B is not zero -/
theorem C03_djnz (e : UInt8) (len : UInt16) (a : Arch) :
    (exec (.djnz e) len a).reg.b = a.reg.b - 1 ∧
    (exec (.djnz e) len a).reg.pc = (if a.reg.b - 1 ≠ 0 then a.reg.pc + 2 + sext e else a.reg.pc + len) := by
  rw [← relTarget_eq]
  simp only [exec.eq_def, bne_iff_ne]
  split <;> exact ⟨rfl, rfl⟩

/-- JP (HL) / (IX) / (IY) -/
theorem C03_jp_reg (r : R16) (len : UInt16) (a : Arch) : (exec (.jpR r) len a).reg.pc = a.reg.get16 r := rfl

/-- CALL nn / RST p: the address of the following instruction is stored low byte first at SP-2 -/
theorem C03_call (nn len : UInt16) (a : Arch) (h0 : a.bus.writable (a.reg.sp - 2)) (h1 : a.bus.writable (a.reg.sp - 2 + 1)) :
    let r := exec (.call nn) len a
    r.reg.pc = nn ∧ r.reg.sp = a.reg.sp - 2 ∧ r.bus.readByte (a.reg.sp - 2) = loByte (a.reg.pc + len) ∧
    r.bus.readByte (a.reg.sp - 2 + 1) = hiByte (a.reg.pc + len) :=
  ⟨rfl, rfl, Bus.readByte_writeWord_lo _ _ _ h0, Bus.readByte_writeWord_hi _ _ _ h1⟩

theorem C03_rst (v len : UInt16) (a : Arch) (h0 : a.bus.writable (a.reg.sp - 2)) (h1 : a.bus.writable (a.reg.sp - 2 + 1)) :
    let r := exec (.rst v) len a
    r.reg.pc = v ∧ r.reg.sp = a.reg.sp - 2 ∧ r.bus.readByte (a.reg.sp - 2) = loByte (a.reg.pc + len) ∧
    r.bus.readByte (a.reg.sp - 2 + 1) = hiByte (a.reg.pc + len) :=
  ⟨rfl, rfl, Bus.readByte_writeWord_lo _ _ _ h0, Bus.readByte_writeWord_hi _ _ _ h1⟩

/-- CALL cc: taken exactly when the condition holds, otherwise sequential and nothing is pushed -/
theorem C03_call_cc (cc : Cc) (nn len : UInt16) (a : Arch) :
    exec (.callcc cc nn) len a = (if condHolds a.reg.flags cc then exec (.call nn) len a else a.setPC (a.reg.pc + len)) :=
  rfl

/-- RET / RETI / RETN reload PC from the stack (low byte first) and add 2 to SP; RET cc when taken -/
theorem C03_ret (cc : Cc) (len : UInt16) (a : Arch) :
    (exec .ret len a).reg.pc = a.bus.readWord a.reg.sp ∧ (exec .ret len a).reg.sp = a.reg.sp + 2 ∧
    (exec .reti len a).reg.pc = a.bus.readWord a.reg.sp ∧ (exec .reti len a).reg.sp = a.reg.sp + 2 ∧
    (exec .retn len a).reg.pc = a.bus.readWord a.reg.sp ∧ (exec .retn len a).reg.sp = a.reg.sp + 2 ∧
    exec (.retcc cc) len a = (if condHolds a.reg.flags cc then exec .ret len a else a.setPC (a.reg.pc + len)) :=
  ⟨rfl, rfl, rfl, rfl, rfl, rfl, rfl⟩

/-- a CALL followed (after anything that leaves the two stack bytes and SP alone) by RET comes back to
    the instruction after the CALL with SP restored -/
theorem C03_call_ret (nn len l2 : UInt16) (a : Arch) (h0 : a.bus.writable (a.reg.sp - 2)) (h1 : a.bus.writable (a.reg.sp - 2 + 1)) :
    (exec .ret l2 (exec (.call nn) len a)).reg.pc = a.reg.pc + len ∧
    (exec .ret l2 (exec (.call nn) len a)).reg.sp = a.reg.sp :=
  ⟨Bus.readWord_writeWord _ _ _ h0 h1, UInt16.sub_add_cancel _ _⟩

/-! ### nesting: n CALLs and the 2n stack bytes they occupy, frame by frame -/

/-- n nested calls: each (target, length of the CALL instruction) executed where the previous one landed -/
def calls (a : Arch) : List (UInt16 × UInt16) → Arch
  | [] => a
  | (nn, len) :: rest => calls (exec (.call nn) len a) rest

/-- `addr` is one of the 2n stack bytes below `sp` -/
def inStack (sp : UInt16) (n : Nat) (addr : UInt16) : Prop := (sp - 1 - addr).toNat < 2 * n

theorem not_inStack_zero (sp addr : UInt16) : ¬ inStack sp 0 addr := by unfold inStack; omega

/-- one more frame: its two bytes on top of the frames below.  In terms of the distance `d = sp - 1 - addr` from the
    top of the stack this reads `d < 2n + 2 ↔ d = 0 ∨ d = 1 ∨ d - 2 < 2n`. -/
theorem inStack_succ (sp addr : UInt16) (n : Nat) (hn : 2 * (n + 1) ≤ 65536) :
    inStack sp (n + 1) addr ↔ addr = sp - 2 + 1 ∨ addr = sp - 2 ∨ inStack (sp - 2) n addr := by
  have e0 : addr = sp - 2 + 1 ↔ sp - 1 - addr = 0 := by
    rw [UInt16.sub_eq_iff_eq_add, UInt16.zero_add, eq_comm, Bus.sub_two_add_one]
  have e1 : addr = sp - 2 ↔ sp - 1 - addr = 1 := by
    rw [UInt16.sub_eq_iff_eq_add, UInt16.sub_eq_iff_eq_add, UInt16.eq_sub_iff_add_eq, eq_comm, UInt16.add_comm 1,
      UInt16.add_assoc]
    rfl
  have e2 : sp - 2 - 1 - addr = sp - 1 - addr - 2 := by simp only [UInt16.sub_eq_add_neg]; ac_rfl
  unfold inStack
  rw [e0, e1, e2]
  generalize sp - 1 - addr = d
  have := d.toNat_lt
  simp only [← UInt16.toNat_inj, UInt16.toNat_sub]
  simp
  omega

/-- the stack does not wrap onto the frame above it -/
theorem not_inStack_frame (sp : UInt16) (n : Nat) (hn : 2 * (n + 1) ≤ 65536) :
    ¬ inStack sp n sp ∧ ¬ inStack sp n (sp + 1) := by
  have := sp.toNat_lt
  simp only [inStack, UInt16.toNat_sub, UInt16.toNat_add]
  simp
  omega

/-- call/return nesting of ANY depth n (2n <= 65,536 so that the stack does not wrap onto itself):
    n CALLs, each executed where the previous one landed, then n RETs: SP is restored, no byte
    outside the 2n stack bytes has changed, and control is back at the instruction after the first
    CALL.  Hypothesis: the 2n bytes below SP are writable (inside memory, outside ROM). -/
theorem C03_nest (l : List (UInt16 × UInt16)) (a : Arch) (hn : 2 * l.length ≤ 65536)
    (hw : ∀ addr, inStack a.reg.sp l.length addr → a.bus.writable addr) :
    let s := iter (exec .ret 1) l.length (calls a l)
    s.reg.sp = a.reg.sp ∧ (∀ addr, ¬ inStack a.reg.sp l.length addr → s.bus.readByte addr = a.bus.readByte addr) ∧
    (∀ nn len rest, l = (nn, len) :: rest → s.reg.pc = a.reg.pc + len) := by
  induction l generalizing a with
  | nil => exact ⟨rfl, fun _ _ => rfl, fun _ _ _ h => nomatch h⟩
  | cons x rest ih =>
    obtain ⟨nn, len⟩ := x
    simp only [List.length_cons] at hn hw ⊢
    have hin := fun addr => inStack_succ a.reg.sp addr rest.length hn
    have hw0 : a.bus.writable (a.reg.sp - 2) := hw _ ((hin _).mpr (.inr (.inl rfl)))
    have hw1 : a.bus.writable (a.reg.sp - 2 + 1) := hw _ ((hin _).mpr (.inl rfl))
    -- the first CALL leaves SP = sp - 2 and the return address there; the inner calls and returns keep both
    obtain ⟨i1, i2, _⟩ := ih (exec (.call nn) len a) (by omega) (fun addr h =>
      (Bus.writable_writeWord _ _ _ _).mpr (hw addr ((hin addr).mpr (.inr (.inr h)))))
    rw [show calls a ((nn, len) :: rest) = calls (exec (.call nn) len a) rest from rfl, iter_succ']
    generalize iter (exec .ret 1) rest.length (calls (exec (.call nn) len a) rest) = s' at i1 i2 ⊢
    replace i1 : s'.reg.sp = a.reg.sp - 2 := i1
    replace i2 : ∀ addr, ¬ inStack (a.reg.sp - 2) rest.length addr →
        s'.bus.readByte addr = (a.bus.writeWord (a.reg.sp - 2) (a.reg.pc + len)).readByte addr := i2
    obtain ⟨f0, f1⟩ := not_inStack_frame (a.reg.sp - 2) rest.length hn
    refine ⟨?_, ?_, ?_⟩
    · show s'.reg.sp + 2 = a.reg.sp
      rw [i1, UInt16.sub_add_cancel]
    · intro addr hnot
      have hnot := fun h => hnot ((hin addr).mpr h)
      show s'.bus.readByte addr = _
      rw [i2 addr (fun h => hnot (.inr (.inr h)))]
      exact Bus.readByte_writeWord_other _ _ _ _ (fun h => hnot (.inr (.inl h))) (fun h => hnot (.inl h))
    · intro nn' len' rest' h
      cases h
      show s'.bus.readWord s'.reg.sp = _
      unfold Bus.readWord
      rw [i1, i2 _ f0, i2 _ f1]
      exact Bus.readWord_writeWord _ _ _ hw0 hw1

/-- at the level of `CPU::execute`: with nothing pending and no halt, a step of a non-transfer
    instruction ends with PC = address + the length of the instruction encoded there -/
theorem C03_step_sequential (c : Cpu) (hq : c.arch.quiet)
    (ht : transfers (decode c.arch.bus c.arch.reg.pc (c.arch.bus.readByte c.arch.reg.pc)).instr = false) :
    (step c).1.arch.reg.pc = c.arch.reg.pc + (decode c.arch.bus c.arch.reg.pc (c.arch.bus.readByte c.arch.reg.pc)).len := by
  show (stepArch c.arch).1.reg.pc = _
  rw [stepArch_quiet _ hq, dispatch_quiet _ hq]
  exact exec_pc_seq _ _ _ ht

/-- non-vacuity: CALL at 0xFFFE pushes 0x0001 (address arithmetic wraps) -/
example :
    let a : Arch := { bus := { mem := #[0, 0, 0, 0] }, reg := { pc := 0xFFFE, sp := 4 } }
    (exec (.call 0x1234) 3 a).bus.mem = #[0, 0, 0x01, 0x00] ∧ (exec (.call 0x1234) 3 a).reg.pc = 0x1234 := by decide

end Z80
