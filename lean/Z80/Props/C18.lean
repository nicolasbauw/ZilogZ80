/-
  C18 — Timed stepping equals plain stepping and throttles once per cycle budget.
  `executeTimed c e`: `e` is the one environment input, `slice_start_time.elapsed()` in ms,
  `none` when the clock went backwards (then no request is produced: the "monotonic clock"
  assumption of the property).  The budget itself (`set_freq`, f32 arithmetic) is a parameter
  of the model (`slice.max`); the formula f x 1000 x d is covered by the correspondence only.
-/
import Z80.Model.Run
namespace Z80

/-- the accounting the property describes: T-states accumulated since the previous request -/
def accumulate (max : UInt32) (acc : UInt32) (cyc : UInt32) : UInt32 := (if max < acc then 0 else acc) + cyc

theorem sliceFires_iff (c : Cpu) : sliceFires c = true ↔ c.slice.max < c.slice.cur := by
  simp only [sliceFires, gt_iff_lt, decide_eq_true_eq]

theorem executeTimed_cur (c : Cpu) (e : Option UInt32) :
    (executeTimed c e).1.slice.cur = accumulate c.slice.max c.slice.cur (step c).2 := by
  simp only [executeTimed, accumulate, sliceFires_iff]

/-- a timed step has exactly the architectural effect (and diagnostics) of a plain step -/
theorem C18_arch (c : Cpu) (e : Option UInt32) :
    (executeTimed c e).1.arch = (step c).1.arch ∧ (executeTimed c e).1.debug = (step c).1.debug := ⟨rfl, rfl⟩

/-- a sleep request is returned exactly at the calls where the accumulated T-states exceed the budget -/
theorem C18_fires_iff (c : Cpu) (e : UInt32) :
    (executeTimed c (some e)).2.isSome = true ↔ c.slice.max < c.slice.cur := by
  rw [← sliceFires_iff]
  simp only [executeTimed]
  split <;> simp [*]

/-- never otherwise, whatever the clock says -/
theorem C18_no_spurious (c : Cpu) (e : Option UInt32) (h : ¬ c.slice.max < c.slice.cur) :
    (executeTimed c e).2 = none := by
  rw [← sliceFires_iff] at h
  simp only [executeTimed, h, Bool.false_eq_true, ↓reduceIte]

/-- the requested sleep never exceeds the slice duration -/
theorem C18_bound (c : Cpu) (e : Option UInt32) (t : UInt32) (h : (executeTimed c e).2 = some t) :
    t ≤ c.slice.duration := by
  simp only [executeTimed] at h
  split at h
  · cases e with
    | none => simp at h
    | some d =>
      simp only [Option.map_some, Option.some.injEq] at h
      split at h
      · rename_i hd; subst h
        rw [UInt32.le_iff_toNat_le, UInt32.toNat_sub_of_le _ _ hd]; omega
      · subst h; exact UInt32.le_iff_toNat_le.mpr (by simp)
  · simp at h

/-- the counter: reset when a request is due, then advanced by the T-states of this step;
    duration and budget are not touched -/
theorem C18_counter (c : Cpu) (e : Option UInt32) :
    (executeTimed c e).1.slice.cur = (if c.slice.max < c.slice.cur then 0 else c.slice.cur) + (step c).2 ∧
    (executeTimed c e).1.slice.max = c.slice.max ∧ (executeTimed c e).1.slice.duration = c.slice.duration := by
  exact ⟨executeTimed_cur c e, rfl, rfl⟩

/-- the budget for a clock of f = n8/8 MHz and a slice of d ms: f x 1000 x d T-states
    (8 * budget = n8 * 1000 * d, no rounding).  That the f32 code computes this value is checked on
    the implementation for the grid f in eighths of a MHz x d | 1000. -/
theorem C18_budget (c : Cpu) (n8 : UInt32) (h : n8.toNat * 125 * c.slice.duration.toNat < 2 ^ 32) :
    8 * (c.setFreqEighths n8).slice.max.toNat = n8.toNat * 1000 * c.slice.duration.toNat ∧
    (c.setFreqEighths n8).slice.duration = c.slice.duration := by
  refine ⟨?_, rfl⟩
  show 8 * (n8 * 125 * c.slice.duration).toNat = _
  generalize hx : n8.toNat = x at h
  generalize hd : c.slice.duration.toNat = d at h
  have ha : ∀ a b e : Nat, 8 * (a * 125 * e) = a * 1000 * e := by
    intro a b e
    rw [← Nat.mul_assoc, Nat.mul_comm 8 (a * 125), Nat.mul_assoc a 125 8]
  by_cases hz : d = 0
  · subst hz
    have : c.slice.duration = 0 := UInt32.toNat_inj.mp (by simpa using hd)
    rw [this]; simp
  · have h1 : x * 125 < 2 ^ 32 := by
      have : x * 125 ≤ x * 125 * d := Nat.le_mul_of_pos_right _ (Nat.pos_of_ne_zero hz)
      omega
    rw [UInt32.toNat_mul, UInt32.toNat_mul, hx, hd]
    simp only [show (125 : UInt32).toNat = 125 from rfl]
    rw [Nat.mod_eq_of_lt h1, Nat.mod_eq_of_lt h]
    exact ha x 0 d

/-- clocks off that grid: `Spec.budgetExact m e d` is f x 1000 x d for f = m * 2^(e-150) (the value of a positive
    normal single), split into whole T-states and a proper fraction r/den - no rounding anywhere -/
theorem C18_budget_exact (m e d : Nat) :
    (Spec.budgetExact m e d).2.1 < (Spec.budgetExact m e d).2.2 ∧
    (if e ≥ 150 then (Spec.budgetExact m e d).1 = m * 1000 * d * 2 ^ (e - 150)
     else (Spec.budgetExact m e d).1 * 2 ^ (150 - e) + (Spec.budgetExact m e d).2.1 = m * 1000 * d) := by
  unfold Spec.budgetExact
  by_cases h : e ≥ 150
  · simp [h]
  · simp only [h, ↓reduceIte]
    have hp : 0 < 2 ^ (150 - e) := Nat.two_pow_pos _
    exact ⟨Nat.mod_lt _ hp, by rw [Nat.mul_comm]; exact Nat.div_add_mod _ _⟩

/-- and on the grid (f = n8/8 MHz exactly) it is the value of `C18_budget`, with nothing left over -/
theorem C18_budget_on_grid (m e n8 d : Nat) (he : e < 150) (hg : m * 8 = n8 * 2 ^ (150 - e)) :
    (Spec.budgetExact m e d).1 = n8 * 125 * d ∧ (Spec.budgetExact m e d).2.1 = 0 := by
  have h : ¬ e ≥ 150 := by omega
  have hp : 0 < 2 ^ (150 - e) := Nat.two_pow_pos _
  have e1 : m * 1000 * d = n8 * 125 * d * 2 ^ (150 - e) := by
    have : m * 1000 * d = m * 8 * (125 * d) := by
      rw [Nat.mul_assoc m 8, ← Nat.mul_assoc 8 125 d, Nat.mul_assoc m 1000 d]
    rw [this, hg, Nat.mul_assoc, Nat.mul_comm (2 ^ (150 - e)), ← Nat.mul_assoc, ← Nat.mul_assoc]
  unfold Spec.budgetExact
  simp only [h, ↓reduceIte, e1]
  exact ⟨Nat.mul_div_cancel _ hp, Nat.mul_mod_left _ _⟩

/-! ### histories of timed steps -/

/-- run `es` timed steps, collecting for each call (request returned?, T-states of the step) -/
def timedTrace (c : Cpu) : List UInt32 → Cpu × List (Bool × UInt32)
  | [] => (c, [])
  | e :: es =>
    let r := executeTimed c (some e)
    let t := timedTrace r.1 es
    (t.1, (r.2.isSome, (step c).2) :: t.2)

/-- replay of the accounting over a recorded trace -/
def replayAcc (max : UInt32) (acc : UInt32) : List (Bool × UInt32) → Option UInt32
  | [] => some acc
  | (fired, cyc) :: rest => if fired = decide (max < acc) then replayAcc max (accumulate max acc cyc) rest else none

/-- for every history of timed calls (monotonic clock): each call returns a request exactly when the
    T-states accumulated since the previous request exceed the budget, and the counter always holds
    that accumulated sum -/
theorem C18_history (c : Cpu) (es : List UInt32) :
    replayAcc c.slice.max c.slice.cur (timedTrace c es).2 = some (timedTrace c es).1.slice.cur ∧
    (timedTrace c es).1.slice.max = c.slice.max := by
  induction es generalizing c with
  | nil => exact ⟨rfl, rfl⟩
  | cons e es ih =>
    simp only [timedTrace, replayAcc]
    have hf : (executeTimed c (some e)).2.isSome = decide (c.slice.max < c.slice.cur) := by
      by_cases h : c.slice.max < c.slice.cur
      · simp [(C18_fires_iff c e).mpr h, h]
      · have := C18_no_spurious c (some e) h
        simp [this, h]
    obtain ⟨hc, hm, _⟩ := C18_counter c (some e)
    obtain ⟨ih1, ih2⟩ := ih (executeTimed c (some e)).1
    simp only [hf, ↓reduceIte]
    rw [hm] at ih1 ih2
    refine ⟨?_, ih2⟩
    rw [← ih1, hc]; rfl

/-! ### histories of arbitrary host calls -/

/-- what each host call does to the slice bookkeeping, as the property describes it: a timed step restarts the
    count when a request was due and adds the T-states of the step; `set_freq` replaces the budget and
    `set_slice_duration` the duration, neither touches the count; nothing else touches any of the three -/
def Slice.after (s : Slice) (e : Event) (cyc : UInt32) : Slice :=
  match e with
  | .timed _ => { s with cur := accumulate s.max s.cur cyc }
  | .setFreq n8 => { s with max := n8 * 125 * s.duration }
  | .setSliceDuration d => { s with duration := d }
  | _ => s

/-- every host call, in any state: the bookkeeping evolves exactly by `Slice.after`; in particular changing the
    clock in the middle of a slice neither discards nor restarts the T-states accumulated so far, and plain
    steps, requests, stores, loads and register assignments do not count -/
theorem C18_event (c : Cpu) (e : Event) : (runEvent c e).slice = c.slice.after e (step c).2 := by
  cases e with
  | timed el => exact congrArg (fun x => ({ c.slice with cur := x } : Slice)) (executeTimed_cur c el)
  | load file org => show (c.loadBin file org).slice = _; unfold Cpu.loadBin; split <;> rfl
  | clear s t => show (c.clearSlice s t).slice = _; unfold Cpu.clearSlice; split <;> rfl
  | _ => rfl

/-- the slice bookkeeping after a whole history, computed without looking at the machine state except for the
    T-states of the timed steps -/
def sliceAlong (c : Cpu) : List Event → Slice
  | [] => c.slice
  | e :: es => sliceAlong (runEvent c e) es

theorem C18_run (c : Cpu) (es : List Event) : (run c es).slice = sliceAlong c es := by
  induction es generalizing c with
  | nil => rfl
  | cons e es ih => exact ih (runEvent c e)

/-- and at every timed call of any history the request is returned exactly when the count exceeds the budget
    in force at that moment -/
theorem C18_run_fires (c : Cpu) (es : List Event) (el : UInt32) :
    (executeTimed (run c es) (some el)).2.isSome = true ↔ (run c es).slice.max < (run c es).slice.cur :=
  C18_fires_iff (run c es) el

/-- non-vacuity: budget 3, counter 4 -> request, counter restarts from this step's 4 T-states -/
example :
    let c : Cpu := { arch := { bus := { mem := #[0, 0] } }, slice := { duration := 16, max := 3, cur := 4 } }
    (executeTimed c (some 5)).2 = some 11 ∧ (executeTimed c (some 5)).1.slice.cur = 4 ∧
    (executeTimed c (some 99)).2 = some 0 := by decide +kernel

end Z80
