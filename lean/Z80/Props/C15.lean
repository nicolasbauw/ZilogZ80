/-
  C15 — Disassembler instruction length equals the bytes the interpreter consumes.
  "Recognised" = the disassembler has a non-empty text for the opcode: every base opcode except
  the prefixes DD/ED/FD, and every CB-prefixed opcode.  For every operand byte, address, state.
-/
import Z80.Lemmas.Rows
import Z80.Lemmas.Pc
import Z80.Lemmas.Step
import Z80.Lemmas.Block
namespace Z80

/-- does `dasm` produce text for the opcode byte `op`? -/
def recognised (op : UInt8) : Bool := op == 0xCB || !(dasmBase.getD op.toNat []).isEmpty

/-- base page: the size column equals the encoded length the decoder reports, whatever the operands -/
theorem C15_size_base (op b1 b2 : UInt8) (h : recognised op = true) (hcb : op ≠ 0xCB) :
    (dasmSize op).toUInt16 = (decodeBase op b1 b2).2 := by
  have hne : (dasmBase.getD op.toNat []).isEmpty = false := by simpa [recognised, hcb] using h
  simpa only [sizeOk, hne, Bool.false_or, beq_iff_eq] using size_base op b1 b2

/-- CB page: size 2 = the length of every CB-prefixed instruction -/
theorem C15_size_cb (op : UInt8) : (dasmSize 0xCB).toUInt16 = (decodeCB op).2 := by
  rw [decodeCB_len]; rfl

/-- for every state without a pending request: the size `dasm` reports at PC is the length
    `decode` hands to the interpreter -/
theorem C15_size_eq_decoded_length (a : Arch) (hint : a.int = none)
    (h : recognised (a.bus.readByte a.reg.pc) = true) :
    (dasm a a.reg.pc).2.toUInt16 = (decode a.bus a.reg.pc (firstByte a)).len := by
  simp only [firstByte, hint, dasm]
  by_cases hcb : a.bus.readByte a.reg.pc = 0xCB
  · simp only [decode, hcb, isPrefix, beq_self_eq_true, Bool.true_or, ↓reduceIte]
    exact C15_size_cb _
  · have hnp : isPrefix (a.bus.readByte a.reg.pc) = false := by
      generalize a.bus.readByte a.reg.pc = op at *
      have hne : (dasmBase.getD op.toNat []).isEmpty = false := by
        simp only [recognised, Bool.or_eq_true, beq_iff_eq, Bool.not_eq_true'] at h
        rcases h with h | h
        · exact absurd h hcb
        · exact h
      -- the three other prefixes have no template
      have key := forall_u8 (p := fun o => !(isPrefix o && !(o == 0xCB) && !(dasmBase.getD o.toNat []).isEmpty)) (by decide +kernel) op
      have hcb' : (op == 0xCB) = false := by simpa using hcb
      rw [hne, hcb'] at key
      cases hp : isPrefix op
      · rfl
      · rw [hp] at key; cases key
    simp only [decode, hnp, Bool.false_eq_true, ↓reduceIte]
    exact C15_size_base _ _ _ h hcb

/-- hence a step of a recognised, non-transfer instruction advances PC by exactly the reported size:
    walking memory with the reported sizes visits the instruction boundaries the interpreter uses -/
theorem C15_step_advance (a : Arch) (hint : a.int = none)
    (h : recognised (a.bus.readByte a.reg.pc) = true)
    (ht : transfers (decode a.bus a.reg.pc (firstByte a)).instr = false) :
    (dispatch a).1.reg.pc = a.reg.pc + (dasm a a.reg.pc).2.toUInt16 := by
  rw [C15_size_eq_decoded_length a hint h]
  show (exec _ _ a).reg.pc = _
  rw [exec_pc_seq _ _ _ ht]
  congr 1
  simp only [effLen, hint]
  split
  · rename_i hh; simp at hh
  · rfl

/-- walking: n steps of straight-line code visit the addresses obtained by adding the reported sizes -/
def walk (a : Arch) : Nat → UInt16 → UInt16
  | 0, addr => addr
  | n + 1, addr => walk a n (addr + (dasm a addr).2.toUInt16)

theorem walk_succ' (a : Arch) (n : Nat) (addr : UInt16) :
    walk a (n + 1) addr = walk a n addr + (dasm a (walk a n addr)).2.toUInt16 := by
  induction n generalizing addr with
  | zero => rfl
  | succ n ih => show walk a (n + 1) _ = _; rw [ih]; rfl

/-- the walk theorem: run `n` steps of straight-line code (no request pending, every instruction
    recognised and not a transfer, and the listing of the bytes about to be executed has not been changed
    by the stores so far); the PC after them is where the listing made from the initial state puts the
    n-th instruction boundary -/
theorem C15_walk (a : Arch) (n : Nat)
    (h : ∀ k, k < n →
      let s := iter (fun s => (stepArch s).1) k a
      s.quiet ∧ recognised (s.bus.readByte s.reg.pc) = true ∧
      transfers (decode s.bus s.reg.pc (firstByte s)).instr = false ∧
      (dasm s s.reg.pc).2 = (dasm a s.reg.pc).2) :
    (iter (fun s => (stepArch s).1) n a).reg.pc = walk a n a.reg.pc := by
  induction n with
  | zero => rfl
  | succ n ih =>
    have ih' := ih (fun k hk => h k (by omega))
    obtain ⟨hq, hr, ht, hs⟩ := h n (by omega)
    rw [iter_succ', walk_succ', ← ih']
    generalize iter (fun s => (stepArch s).1) n a = s at *
    have e : (stepArch s).1 = (dispatch s).1 := by rw [stepArch_quiet s hq]
    rw [e, C15_step_advance s hq.2.2 hr ht, hs]

/-- non-vacuity: LD BC,nn is recognised, three bytes, PC advances by three -/
example :
    let a : Arch := { bus := { mem := #[0x01, 0x34, 0x12, 0x00] } }
    recognised 0x01 = true ∧ (dasm a 0).2 = 3 ∧ (dispatch a).1.reg.pc = 3 ∧ (dasm a 0).1 = "01 34 12 LD BC,$1234" := by
  decide +kernel

/-- the size is a function of the byte stored at the address and of nothing else: not of a pending request, not of
    PC, not of what was executed or listed before -/
theorem C15_size_of_byte (a : Arch) (address : UInt16) : (dasm a address).2 = dasmSize (a.bus.readByte address) := rfl

/-- non-vacuity of the walk: LD BC,$1234 ; INC B ; NOP from address 0 -/
example :
    let a : Arch := { bus := { mem := #[0x01, 0x34, 0x12, 0x04, 0x00, 0x00] } }
    walk a 3 0 = 5 ∧ (iter (fun s => (stepArch s).1) 3 a).reg.pc = 5 ∧ a.quiet := by
  refine ⟨by decide +kernel, by decide +kernel, rfl, rfl, rfl⟩

end Z80
