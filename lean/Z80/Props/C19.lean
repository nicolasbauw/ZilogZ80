/-
  C19 — A repeating block instruction equals iterating its single-step form.
  For every state: every BC (0 = 65,536 iterations), every HL/DE placement (disjoint, overlapping
  either way, wrapping through 0xFFFF), any memory size and ROM window, any A and memory contents.
  `ldStep up` / `cpStep up` are the effects of LDI/LDD / CPI/CPD on everything but PC.
-/
import Z80.Lemmas.Block
namespace Z80

/-- LDI/LDD/CPI/CPD as instructions are the single step plus the PC advance -/
theorem C19_singles (len : UInt16) (a : Arch) :
    exec .ldi len a = (ldStep true a).setPC (a.reg.pc + len) ∧ exec .ldd len a = (ldStep false a).setPC (a.reg.pc + len) ∧
    exec .cpi len a = (cpStep true a).setPC (a.reg.pc + len) ∧ exec .cpd len a = (cpStep false a).setPC (a.reg.pc + len) :=
  ⟨rfl, rfl, rfl, rfl⟩

/-- LDIR/LDDR and CPIR/CPDR for either direction: the iterated single step plus the PC advance -/
theorem exec_ldRepeat (up : Bool) (len : UInt16) (a : Arch) :
    exec (if up then .ldir else .lddr) len a = (iter (ldStep up) (blockCount a.reg.getBC) a).setPC (a.reg.pc + len) := by
  rw [← ldRepeat_eq_iter]; cases up <;> rfl

theorem exec_cpRepeat (up : Bool) (len : UInt16) (a : Arch) :
    ∃ k, 0 < k ∧ k ≤ blockCount a.reg.getBC ∧
      exec (if up then .cpir else .cpdr) len a = (iter (cpStep up) k a).setPC (a.reg.pc + len) ∧
      cpStops (iter (cpStep up) k a) = true ∧ ∀ j, 0 < j → j < k → cpStops (iter (cpStep up) j a) = false := by
  obtain ⟨k, h0, h1, h2, h3, h4⟩ := cpRepeat_spec up a
  exact ⟨k, h0, h1, by rw [← h2]; cases up <;> rfl, h3, h4⟩

/-- LDIR = LDI iterated BC times (65,536 times when BC = 0); registers, flags and memory -/
theorem C19_ldir (len : UInt16) (a : Arch) :
    exec .ldir len a = (iter (ldStep true) (blockCount a.reg.getBC) a).setPC (a.reg.pc + len) :=
  exec_ldRepeat true len a

theorem C19_lddr (len : UInt16) (a : Arch) :
    exec .lddr len a = (iter (ldStep false) (blockCount a.reg.getBC) a).setPC (a.reg.pc + len) :=
  exec_ldRepeat false len a

/-- ... and that count is exactly "until BC reaches 0": BC is 0 after it and not before -/
theorem C19_ld_count (up : Bool) (a : Arch) :
    (iter (ldStep up) (blockCount a.reg.getBC) a).reg.getBC = 0 ∧
    ∀ j, 0 < j → j < blockCount a.reg.getBC → (iter (ldStep up) j a).reg.getBC ≠ 0 := by
  constructor
  · rw [iter_ldStep_bc, blockCount_eq, UInt16.ofNat_add, UInt16.ofNat_toNat, UInt16.ofNat_one, UInt16.sub_add_cancel, UInt16.sub_self]
  · intro j h0 h1 hz
    rw [iter_ldStep_bc] at hz
    have := congrArg UInt16.toNat hz
    have hlt := a.reg.getBC.toNat_lt
    rw [UInt16.toNat_sub, UInt16.toNat_ofNat'] at this
    unfold blockCount at h1
    split at h1
    · rename_i h; rw [h] at this; simp at this; omega
    · simp at this; omega

/-- CPIR = CPI iterated until a match is found or BC reaches 0: the loop's result is the state after
    the first (least, positive) number of CPI steps at which one of the two holds -/
theorem C19_cpir (len : UInt16) (a : Arch) :
    ∃ k, 0 < k ∧ k ≤ blockCount a.reg.getBC ∧
      exec .cpir len a = (iter (cpStep true) k a).setPC (a.reg.pc + len) ∧
      cpStops (iter (cpStep true) k a) = true ∧ ∀ j, 0 < j → j < k → cpStops (iter (cpStep true) j a) = false :=
  exec_cpRepeat true len a

theorem C19_cpdr (len : UInt16) (a : Arch) :
    ∃ k, 0 < k ∧ k ≤ blockCount a.reg.getBC ∧
      exec .cpdr len a = (iter (cpStep false) k a).setPC (a.reg.pc + len) ∧
      cpStops (iter (cpStep false) k a) = true ∧ ∀ j, 0 < j → j < k → cpStops (iter (cpStep false) j a) = false :=
  exec_cpRepeat false len a

/-! ### The hardware's view: one single step per fetch, PC held on the instruction until the loop ends

On the part, LDIR/LDDR/CPIR/CPDR execute ONE LDI/LDD/CPI/CPD per fetch and, while the loop has to go on, leave PC on
the instruction so that it is fetched again; only the last iteration moves PC past it.  The interpreter collapses
the loop into one `execute`.  The two views give the same machine state. -/

/-- one fetch of LDIR/LDDR on the part -/
def ldRefetch (up : Bool) (len : UInt16) (a : Arch) : Arch :=
  let a' := ldStep up a
  if a'.reg.getBC = 0 then a'.setPC (a.reg.pc + len) else a'

/-- one fetch of CPIR/CPDR on the part -/
def cpRefetch (up : Bool) (len : UInt16) (a : Arch) : Arch :=
  let a' := cpStep up a
  if cpStops a' then a'.setPC (a.reg.pc + len) else a'

theorem ldStep_pc (up : Bool) (a : Arch) : (ldStep up a).reg.pc = a.reg.pc := rfl
theorem cpStep_pc (up : Bool) (a : Arch) : (cpStep up a).reg.pc = a.reg.pc := rfl

theorem ldRefetch_eq (up : Bool) (len : UInt16) (a : Arch) :
    ldRefetch up len a = if (ldStep up a).reg.getBC = 0 then (ldStep up a).setPC (a.reg.pc + len) else ldStep up a := rfl

theorem cpRefetch_eq (up : Bool) (len : UInt16) (a : Arch) :
    cpRefetch up len a = if cpStops (cpStep up a) then (cpStep up a).setPC (a.reg.pc + len) else cpStep up a := rfl

theorem iter_ldStep_pc (up : Bool) (n : Nat) (a : Arch) : (iter (ldStep up) n a).reg.pc = a.reg.pc :=
  iter_proj (·.reg.pc) _ (ldStep_pc up) n a

theorem iter_cpStep_pc (up : Bool) (n : Nat) (a : Arch) : (iter (cpStep up) n a).reg.pc = a.reg.pc :=
  iter_proj (·.reg.pc) _ (cpStep_pc up) n a

/-- `m + 1` fetches of which only the last ends the loop: `g` is `f` on the first `m` states of `f`'s orbit and
    `f` followed by `e` on the next -/
theorem iter_last {α : Type} (f g e : α → α) (a : α) (m : Nat)
    (h : ∀ j, j < m → g (iter f j a) = f (iter f j a)) (hl : g (iter f m a) = e (f (iter f m a))) :
    iter g (m + 1) a = e (iter f (m + 1) a) ∧ ∀ j, j < m + 1 → iter g j a = iter f j a := by
  have hj : ∀ j, j < m + 1 → iter g j a = iter f j a := fun j hj => iter_congr f g a j (fun i hi => h i (by omega))
  exact ⟨by rw [iter_succ', hj m (by omega), hl, iter_succ'], hj⟩

/-- LDIR/LDDR collapsed into one `execute` = the part's `blockCount BC` fetches of the instruction; before the last
    of them PC is still on the instruction (an interrupt taken there would resume the loop), after it PC is past it -/
theorem C19_ld_refetch (up : Bool) (len : UInt16) (a : Arch) :
    iter (ldRefetch up len) (blockCount a.reg.getBC) a = exec (if up then .ldir else .lddr) len a ∧
    ∀ j, j < blockCount a.reg.getBC →
      (iter (ldRefetch up len) j a).reg.pc = a.reg.pc ∧ iter (ldRefetch up len) j a = iter (ldStep up) j a := by
  obtain ⟨hz, hnz⟩ := C19_ld_count up a
  rw [exec_ldRepeat]
  obtain ⟨m, hm⟩ : ∃ m, blockCount a.reg.getBC = m + 1 := ⟨_, (Nat.sub_add_cancel (blockCount_pos _)).symm⟩
  rw [hm] at hz hnz ⊢
  have ⟨h1, h2⟩ := iter_last (ldStep up) (ldRefetch up len) (·.setPC (a.reg.pc + len)) a m
    (fun j hj => by rw [ldRefetch_eq, ← iter_succ' (ldStep up), if_neg (hnz _ (by omega) (by omega))])
    (by rw [ldRefetch_eq, ← iter_succ' (ldStep up), if_pos hz, iter_ldStep_pc])
  exact ⟨h1, fun j hj => ⟨by rw [h2 j hj, iter_ldStep_pc], h2 j hj⟩⟩

/-- CPIR/CPDR likewise: the collapsed loop is `k` fetches, `k` the first step at which a match is found or BC is 0 -/
theorem C19_cp_refetch (up : Bool) (len : UInt16) (a : Arch) :
    ∃ k, 0 < k ∧ k ≤ blockCount a.reg.getBC ∧
      iter (cpRefetch up len) k a = exec (if up then .cpir else .cpdr) len a ∧
      ∀ j, j < k → (iter (cpRefetch up len) j a).reg.pc = a.reg.pc ∧ iter (cpRefetch up len) j a = iter (cpStep up) j a := by
  obtain ⟨k, h0, h1, he, hs, hn⟩ := exec_cpRepeat up len a
  obtain ⟨m, rfl⟩ : ∃ m, k = m + 1 := ⟨_, (Nat.sub_add_cancel h0).symm⟩
  have ⟨i1, i2⟩ := iter_last (cpStep up) (cpRefetch up len) (·.setPC (a.reg.pc + len)) a m
    (fun j hj => by rw [cpRefetch_eq, ← iter_succ' (cpStep up), hn _ (by omega) (by omega)]; rfl)
    (by rw [cpRefetch_eq, ← iter_succ' (cpStep up), hs, iter_cpStep_pc]; rfl)
  exact ⟨m + 1, h0, h1, i1.trans he.symm, fun j hj => ⟨by rw [i2 j hj, iter_cpStep_pc], i2 j hj⟩⟩

/-- non-vacuity: three fetches of LDIR at PC = 0x10 -/
example :
    let a : Arch := { bus := { mem := #[1, 2, 3, 4, 5, 6, 7, 8] }, reg := { pc := 0x10, b := 0, c := 3, h := 0, l := 0, d := 0, e := 1 } }
    (iter (ldRefetch true 2) 2 a).reg.pc = 0x10 ∧ (iter (ldRefetch true 2) 3 a).reg.pc = 0x12 ∧
    (iter (ldRefetch true 2) 3 a).bus.mem = #[1, 1, 1, 1, 5, 6, 7, 8] := by decide

/-- non-vacuity: an overlapping forward copy of 3 bytes -/
example :
    let a : Arch := { bus := { mem := #[1, 2, 3, 4, 5, 6, 7, 8] }, reg := { b := 0, c := 3, h := 0, l := 0, d := 0, e := 1 } }
    (exec .ldir 2 a).bus.mem = #[1, 1, 1, 1, 5, 6, 7, 8] ∧ blockCount a.reg.getBC = 3 := by decide

end Z80
