/-
  C11 — An enabled maskable interrupt is accepted once, vectored by mode, linked right.
  All statements are about `stepArch` (= `CPU::execute` on the architectural state) for every
  state: any registers/memory, IFF2 either way, halted or not (`wake` moves PC past a HALT first),
  any I and table contents.  `a.int = some b` is "a request with byte b was raised since the last step".
-/
import Z80.Lemmas.Step
import Z80.Model.Run
namespace Z80

/-- the eight RST opcodes and their vectors -/
def rstVector (b : UInt8) : Option UInt16 :=
  match b with
  | 0xC7 => some 0x00 | 0xCF => some 0x08 | 0xD7 => some 0x10 | 0xDF => some 0x18
  | 0xE7 => some 0x20 | 0xEF => some 0x28 | 0xF7 => some 0x30 | 0xFF => some 0x38
  | _ => none

private theorem decode_rst (bus : Bus) (pc : UInt16) (b : UInt8) (v : UInt16) (h : rstVector b = some v) :
    decode bus pc b = ⟨.rst v, 1, .base, b⟩ := by
  unfold rstVector at h
  split at h <;> first | (cases h; rfl) | (cases h)

/-- the state in which acceptance takes place: a HALT has been left behind -/
abbrev resumed (a : Arch) : Arch := wake a

/-- (i) serviced iff enabled — the enabled half: with IFF1 set and no NMI the request is accepted:
    both enables are cleared and the latch is consumed by this step -/
theorem C11_enabled (a : Arch) (b : UInt8) (hi : a.iff1 = true) (hn : a.nmi = false) (hb : a.int = some b) :
    preDispatch a = acceptInt (resumed a) b ∧ (stepArch a).1 = (dispatch (preDispatch a)).1 ∧
    (preDispatch a).iff1 = false ∧ (preDispatch a).iff2 = false ∧ (stepArch a).1.int = none := by
  have h1 : preDispatch a = acceptInt (wake a) b := preDispatch_int_taken a b hn hi hb
  have h2 : (stepArch a).1 = (dispatch (preDispatch a)).1 := by
    rw [stepArch_running a (by simp [Arch.wakes, hi, hb])]
  exact ⟨h1, h2, h1 ▸ (acceptInt_ctl _ b).1, h1 ▸ (acceptInt_ctl _ b).2.1, by rw [h2]; rfl⟩

/-- (i) the disabled half is C12: with IFF1 clear the request is not serviced -/
theorem C11_disabled (a : Arch) (b : UInt8) (hi : a.iff1 = false) (hb : a.int = some b) (hn : a.nmi = false) :
    preDispatch a = { wake a with int := none } := preDispatch_none a hn (Or.inl hi)

/-- (ii) mode 0 with one of the eight RST opcodes: control passes to that vector, the pushed return
    address is the PC of the instruction that would otherwise have run next, SP := SP - 2 -/
theorem C11_mode0 (a : Arch) (b : UInt8) (v : UInt16) (hv : rstVector b = some v)
    (hi : a.iff1 = true) (hn : a.nmi = false) (hb : a.int = some b) (hm : a.im = 0) :
    (stepArch a).1 =
      { (({ resumed a with iff1 := false, iff2 := false } : Arch).pushWord (resumed a).reg.pc).setPC v with int := none } := by
  obtain ⟨h1, h2, _⟩ := C11_enabled a b hi hn hb
  have h3 : preDispatch a = { wake a with iff1 := false, iff2 := false } := by
    rw [h1]; simp [acceptInt, wake_eq, hm]
  have hb' : (wake a).int = some b := by rw [wake_eq]; exact hb
  rw [h2, h3]
  simp only [dispatch, firstByte, hb', decode_rst _ _ b v hv, effLen, exec.eq_def]
  simp [Arch.pushWord, Arch.setPC]

/-- (ii) mode 1: vector 0x0038 regardless of the byte supplied -/
theorem C11_mode1 (a : Arch) (b : UInt8) (hi : a.iff1 = true) (hn : a.nmi = false) (hb : a.int = some b) (hm : a.im = 1) :
    (stepArch a).1 =
      { (({ resumed a with iff1 := false, iff2 := false } : Arch).pushWord (resumed a).reg.pc).setPC 0x0038 with int := none } := by
  obtain ⟨h1, h2, _⟩ := C11_enabled a b hi hn hb
  have h3 : preDispatch a = { wake a with iff1 := false, iff2 := false, int := some 0xFF } := by
    rw [h1]; simp [acceptInt, wake_eq, hm]
  rw [h2, h3]
  simp only [dispatch, firstByte, decode_rst _ _ 0xFF 0x38 rfl, effLen, exec.eq_def]
  simp [Arch.pushWord, Arch.setPC]

/-- (ii) mode 2: PC is pushed, then loaded from the 16-bit table entry at I*256 + byte; the first
    handler instruction is executed by the same call (as the code does) -/
theorem C11_mode2 (a : Arch) (b : UInt8) (hi : a.iff1 = true) (hn : a.nmi = false) (hb : a.int = some b) (hm : a.im = 2) :
    let pushed := ({ resumed a with iff1 := false, iff2 := false } : Arch).pushWord (resumed a).reg.pc
    preDispatch a = { pushed.setPC (pushed.bus.readWord (mkWord a.reg.i b)) with int := none } ∧
    (stepArch a).1 = (dispatch (preDispatch a)).1 := by
  obtain ⟨h1, h2, _⟩ := C11_enabled a b hi hn hb
  refine ⟨?_, h2⟩
  rw [h1]; simp [acceptInt, wake_eq, hm]

/-! ### each request is serviced at most once, over every history -/

/-- does this step accept a maskable request? -/
def acceptsInt (a : Arch) : Bool := a.iff1 && !a.nmi && a.int.isSome

def latchedA (a : Arch) : Nat := if a.int.isSome then 1 else 0
def latched (c : Cpu) : Nat := latchedA c.arch
def acceptsN (a : Arch) : Nat := if acceptsInt a then 1 else 0

/-- number of steps of the history that accept a maskable request -/
def acceptCount (c : Cpu) : List Event → Nat
  | [] => 0
  | e :: es =>
    (match e with
     | .step | .timed _ => acceptsN c.arch
     | _ => 0) + acceptCount (runEvent c e) es

def requestCount : List Event → Nat
  | [] => 0
  | .int _ :: es => 1 + requestCount es
  | _ :: es => requestCount es

private theorem step_latch (a : Arch) : latchedA (stepArch a).1 + acceptsN a ≤ latchedA a := by
  unfold latchedA acceptsN acceptsInt
  by_cases hidle : (a.halt && !a.wakes) = true
  · -- an idle step accepts nothing: halted, and either masked or nothing latched
    rw [stepArch_idle a hidle]
    simp only [Arch.wakes, Bool.and_eq_true, Bool.not_eq_true', Bool.or_eq_false_iff, Bool.and_eq_false_iff] at hidle
    rcases hidle.2.2 with h | h <;> simp [h]
  · rw [(stepArch_latches a (by simpa using hidle)).1]
    cases a.int <;> simp <;> split <;> omega

private theorem latchedA_le (a : Arch) : latchedA a ≤ 1 := by unfold latchedA; split <;> omega

/-- the latch after a host call: a step consumes it or leaves it, a request sets it, nothing else touches it -/
private theorem latched_runEvent (c : Cpu) (e : Event) :
    latched (runEvent c e) = match e with
      | .step | .timed _ => latchedA (stepArch c.arch).1
      | .int _ => 1
      | _ => latched c := by
  cases e <;> try rfl
  case load file org => show latched (c.loadBin file org) = _; unfold Cpu.loadBin; split <;> rfl
  case clear s t => show latched (c.clearSlice s t) = _; unfold Cpu.clearSlice; split <;> rfl

/-- a request raised before the previous one was consumed replaces it: there is one latch, not a queue -/
theorem C11_latest_request (c : Cpu) (b1 b2 : UInt8) : (c.intRequest b1).intRequest b2 = c.intRequest b2 := rfl

/-- over any finite history of host calls (steps, timed steps, requests, NMIs, stores, loads, clears, clock
    settings, register assignments): the number of
    accepted maskable interrupts never exceeds the number of requests raised (plus one if a request
    was already latched at the start) -/
theorem C11_once (c : Cpu) (es : List Event) :
    acceptCount c es + latched (run c es) ≤ requestCount es + latched c := by
  induction es generalizing c with
  | nil => simp [acceptCount, requestCount, run]
  | cons e es ih =>
    have := ih (runEvent c e)
    have hs := step_latch c.arch
    have hl := latchedA_le c.arch
    rw [latched_runEvent] at this
    simp only [run, List.foldl_cons] at this ⊢
    cases e <;> simp only [acceptCount, requestCount, latched] at * <;> omega

/-- non-vacuity: mode 1, byte 0x00, PC = 0x1234 -> PC = 0x38, stack holds 34 12 -/
example :
    let a : Arch := { bus := { mem := #[0, 0, 0, 0] }, reg := { pc := 0x1234, sp := 4 }, iff1 := true, iff2 := true,
                      im := 1, int := some 0 }
    (stepArch a).1.reg.pc = 0x38 ∧ (stepArch a).1.bus.mem = #[0, 0, 0x34, 0x12] ∧ (stepArch a).1.iff1 = false := by
  decide +kernel

end Z80
