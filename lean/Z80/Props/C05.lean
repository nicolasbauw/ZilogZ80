/-
  C05 — Every opcode sequence is executed as encoded or reported as unknown.
  `decode bus pc first` is total: it maps every byte sequence to a row of one of the seven
  pages; `Instr.unknown` stands for "the interpreter has no arm".  Statements are for every
  architectural state `a` (what `execute` dispatches on, see `preDispatch`) and every CPU `c`.
-/
import Z80.Lemmas.Rows
import Z80.Lemmas.Step
import Z80.Spec.Undocumented
namespace Z80

/-- the opcode selection of `execute` -/
abbrev decoded (a : Arch) : Decoded := decode a.bus a.reg.pc (firstByte a)

/-- a reported step: sentinel 255, no register other than PC changes, no memory byte changes, PC
    moves past exactly the bytes that were decoded, the request latch is consumed -/
theorem C05_reported (a : Arch) (h : (decoded a).instr = .unknown) :
    dispatch a = ({ a.setPC (a.reg.pc + (decoded a).len) with int := none }, 255,
                  ⟨(decoded a).page, true, opcodeText a.bus a.reg.pc (decoded a), decoded a, true⟩) := by
  simp only [dispatch, instrCycles, effLen, h, exec.eq_def, taken, ↓reduceIte]
  simp

/-- an executed step never returns the sentinel -/
theorem C05_executed (a : Arch) (h : (decoded a).instr ≠ .unknown) :
    (dispatch a).2.1 ≠ 255 ∧ (dispatch a).1 = { exec (decoded a).instr (effLen (decoded a) a.int) a with int := none } := by
  refine ⟨?_, rfl⟩
  have hr : IsRow (decoded a) := (decode_isRow _ _ _).resolve_right fun hu => h hu.1
  simp only [dispatch, instrCycles, h, ↓reduceIte]
  exact (isRow_facts _ hr).2.2.1 _

/-- every documented Z80 instruction other than the I/O group is in the executed set -/
theorem C05_documented (bus : Bus) (pc : UInt16) (first : UInt8) :
    let d := decode bus pc first
    IsRow d → Spec.documented d.page d.op = true → Spec.io d.page d.op = false → d.instr ≠ .unknown := by
  intro d hr hd hio
  exact isRow_doc_impl d hr (by simp [docNonIo, hd, hio])

/-- and every byte sequence is a row of one of the seven pages (or, when an interrupt supplies a
    prefix byte that memory does not hold, reported) -/
theorem C05_total (bus : Bus) (pc : UInt16) (first : UInt8) :
    IsRow (decode bus pc first) ∨ ((decode bus pc first).instr = .unknown ∧ (decode bus pc first).len = 2) :=
  decode_isRow bus pc first

/-- with unknown-instruction diagnostics enabled, the reported step records the opcode bytes:
    `0x` followed by the two hex digits of each byte that was decoded as opcode -/
theorem C05_diagnostic (c : Cpu) (hrun : (c.arch.halt && !c.arch.wakes) = false)
    (h : (decoded (preDispatch c.arch)).instr = .unknown) (hd : c.debug.unknw = true) :
    (step c).1.debug.str = opcodeText (preDispatch c.arch).bus (preDispatch c.arch).reg.pc (decoded (preDispatch c.arch)) ∧
    (step c).2 = 255 := by
  simp only [step, stepArch_running _ hrun, C05_reported _ h, updateDebug, hd, Bool.and_self]
  constructor
  · split <;> simp
  · trivial

theorem C05_diagnostic_text (bus : Bus) (pc : UInt16) (d : Decoded) :
    opcodeText bus pc d =
      match d.page with
      | .base => "0x" ++ hex2 d.op
      | .cb | .ed | .dd | .fd => "0x" ++ hex2 (bus.readByte pc) ++ hex2 (bus.readByte (pc + 1))
      | .ddcb | .fdcb => "0x" ++ hex2 (bus.readByte pc) ++ hex2 (bus.readByte (pc + 1)) ++
                          hex2 (bus.readByte (pc + 2)) ++ hex2 (bus.readByte (pc + 3)) := rfl

/-- the table used to judge an implementation that executes an undocumented ED encoding (`Spec.undocED`) never
    speaks about a documented or I/O encoding, and every encoding it lists is one the interpreter reports -/
theorem C05_undoc_disjoint (op : UInt8) (h : (Spec.undocED op).isSome = true) :
    Spec.documented .ed op = false ∧ Spec.io .ed op = false ∧ (decodeED op 0 0).1 = .unknown := by
  have key : ∀ i : Fin 256, (Spec.undocED (UInt8.ofFin i)).isSome = true →
      Spec.documented .ed (UInt8.ofFin i) = false ∧ Spec.io .ed (UInt8.ofFin i) = false ∧
      (decodeED (UInt8.ofFin i) 0 0).1 = .unknown := by decide +kernel
  simpa using key op.toFin h

/-- non-vacuity: ED 00 is reported, IN A,(n) too (2 bytes), LD A,n is executed -/
example :
    (decode { mem := #[0xED, 0x00] } 0 0xED).instr = .unknown ∧ (decode { mem := #[0xDB, 0x12] } 0 0xDB).len = 2 ∧
    (decode { mem := #[0x3E, 0x12] } 0 0x3E).instr = .ld8 (.reg .a) (.imm 0x12) := by decide

end Z80
