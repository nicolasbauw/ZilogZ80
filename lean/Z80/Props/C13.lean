/-
  C13 — NMI is always taken, saves and clears the enable state; RETN restores it.
  For every architectural state: any IFF1/IFF2, any mode, maskable request pending or not,
  halted or not (`wake` moves PC past a HALT first).
-/
import Z80.Lemmas.Step
namespace Z80

/-- a non-maskable request is serviced at the start of the next step whatever IFF1, the mode and a
    simultaneous maskable request are: PC := 0x0066 with the interrupted PC pushed, IFF2 := IFF1,
    IFF1 := 0, both latches cleared (the maskable request is not serviced) -/
theorem C13_accept (a : Arch) (hn : a.nmi = true) :
    preDispatch a =
      { (((wake a).pushWord (wake a).reg.pc).setPC 0x0066) with
          iff2 := a.iff1, iff1 := false, nmi := false, int := none } ∧
    (stepArch a).1 = (dispatch (preDispatch a)).1 :=
  ⟨preDispatch_nmi_taken a hn, by rw [stepArch_running a (by simp [Arch.wakes, hn])]⟩

/-- in plain terms: where control goes, what is on the stack, what happens to the enables -/
theorem C13_accept_fields (a : Arch) (hn : a.nmi = true) :
    (preDispatch a).reg.pc = 0x0066 ∧ (preDispatch a).reg.sp = (wake a).reg.sp - 2 ∧
    (preDispatch a).bus = (wake a).bus.writeWord ((wake a).reg.sp - 2) (wake a).reg.pc ∧
    (preDispatch a).iff2 = a.iff1 ∧ (preDispatch a).iff1 = false ∧ (preDispatch a).int = none ∧
    (preDispatch a).nmi = false := by
  rw [(C13_accept a hn).1]; exact ⟨rfl, rfl, rfl, rfl, rfl, rfl, rfl⟩

/-- RETN restores the enable state from the shadow and returns to the pushed address -/
theorem C13_retn (len : UInt16) (a : Arch) :
    (exec .retn len a).iff1 = a.iff2 ∧ (exec .retn len a).iff2 = a.iff2 ∧
    (exec .retn len a).reg.pc = a.bus.readWord a.reg.sp ∧ (exec .retn len a).reg.sp = a.reg.sp + 2 ∧
    (exec .retn len a).bus = a.bus := ⟨rfl, rfl, rfl, rfl, rfl⟩

/-- RETI and RET leave the enable state alone -/
theorem C13_reti_ret (len : UInt16) (a : Arch) :
    (exec .reti len a).iff1 = a.iff1 ∧ (exec .reti len a).iff2 = a.iff2 ∧
    (exec .ret len a).iff1 = a.iff1 ∧ (exec .ret len a).iff2 = a.iff2 ∧
    (exec .reti len a).reg.pc = a.bus.readWord a.reg.sp ∧ (exec .reti len a).reg.sp = a.reg.sp + 2 := ⟨rfl, rfl, rfl, rfl, rfl, rfl⟩

/-- LD A,I and LD A,R expose the shadow in P/V -/
theorem C13_ld_a_ir (len : UInt16) (a : Arch) :
    (exec .ldAI len a).reg.flags.p = a.iff2 ∧ (exec .ldAR len a).reg.flags.p = a.iff2 ∧
    (exec .ldAI len a).reg.a = a.reg.i ∧ (exec .ldAR len a).reg.a = a.reg.r := ⟨rfl, rfl, rfl, rfl⟩

/-! ### NMI ... RETN restores the enable state, for every handler -/

/-- instructions that do not write the enable flip-flops -/
def keepsIff : Instr → Bool
  | .ei | .di | .retn => false
  | _ => true

private theorem write8_iff (a : Arch) (l : Loc8) (v : UInt8) :
    ((a.write8 l v).iff1, (a.write8 l v).iff2) = (a.iff1, a.iff2) := by cases l <;> rfl

theorem exec_keeps_iff (i : Instr) (len : UInt16) (a : Arch) (h : keepsIff i = true) :
    (exec i len a).iff1 = a.iff1 ∧ (exec i len a).iff2 = a.iff2 := by
  suffices e : ((exec i len a).iff1, (exec i len a).iff2) = (a.iff1, a.iff2) from Prod.mk.inj e
  cases i <;> simp only [exec.eq_def]
  case ei | di | retn => cases h
  case ld8 | inc8 | dec8 | rot | set | res => exact write8_iff ..
  case ldir | lddr => exact ldRepeat_proj (fun a => (a.iff1, a.iff2)) _ (fun _ => rfl) a
  case cpir | cpdr => exact cpRepeat_proj (fun a => (a.iff1, a.iff2)) _ (fun _ => rfl) a
  case jpcc | jrcc | djnz | callcc | retcc => split <;> rfl
  all_goals rfl

/-- run a handler given as a list of (instruction, length) pairs -/
def execList (a : Arch) : List (Instr × UInt16) → Arch
  | [] => a
  | (i, len) :: rest => execList (exec i len a) rest

theorem execList_keeps_iff (a : Arch) (is : List (Instr × UInt16)) (h : ∀ p ∈ is, keepsIff p.1 = true) :
    (execList a is).iff1 = a.iff1 ∧ (execList a is).iff2 = a.iff2 := by
  induction is generalizing a with
  | nil => exact ⟨rfl, rfl⟩
  | cons p ps ih =>
    obtain ⟨e1, e2⟩ := exec_keeps_iff p.1 p.2 a (h p (by simp))
    obtain ⟨f1, f2⟩ := ih (exec p.1 p.2 a) (fun q hq => h q (by simp [hq]))
    exact ⟨f1.trans e1, f2.trans e2⟩

/-- NMI accepted in a state with IFF1 = e; any handler that executes no EI / DI / RETN (of any
    length, touching registers, memory, the stack as it likes); RETN: IFF1 is e again -/
theorem C13_nmi_retn_restores (a : Arch) (hn : a.nmi = true) (handler : List (Instr × UInt16)) (len : UInt16)
    (h : ∀ p ∈ handler, keepsIff p.1 = true) :
    (exec .retn len (execList (preDispatch a) handler)).iff1 = a.iff1 := by
  obtain ⟨_, h2⟩ := execList_keeps_iff (preDispatch a) handler h
  show (execList (preDispatch a) handler).iff2 = a.iff1
  rw [h2]; exact (C13_accept_fields a hn).2.2.2.1

/-- nested NMIs: the second acceptance overwrites the shadow with the (cleared) IFF1, as on the hardware -/
theorem C13_nested (a : Arch) (hn : a.nmi = true) (handler : List (Instr × UInt16))
    (h : ∀ p ∈ handler, keepsIff p.1 = true) :
    (preDispatch { execList (preDispatch a) handler with nmi := true }).iff2 = false := by
  obtain ⟨h1, _⟩ := execList_keeps_iff (preDispatch a) handler h
  have := (C13_accept_fields { execList (preDispatch a) handler with nmi := true } rfl).2.2.2.1
  rw [this]; show (execList (preDispatch a) handler).iff1 = false
  rw [h1]; exact (C13_accept_fields a hn).2.2.2.2.1

/-- the request is a latch, not a counter: raising it again before a step has consumed it changes nothing,
    so two requests without a step in between are serviced once -/
theorem C13_request_idempotent (c : Cpu) : c.nmiRequest.nmiRequest = c.nmiRequest := rfl

/-- ... and the one acceptance consumes it -/
theorem C13_request_consumed (c : Cpu) :
    (step c.nmiRequest.nmiRequest).1.arch.nmi = false := by
  have h : (c.nmiRequest.nmiRequest.arch.halt && !c.nmiRequest.nmiRequest.arch.wakes) = false := by
    simp [Cpu.nmiRequest, Arch.wakes]
  exact (stepArch_latches _ h).2

/-- non-vacuity: NMI with IFF1 = 1 and a pending maskable request -/
example :
    let a : Arch := { bus := { mem := #[0, 0, 0, 0] }, reg := { pc := 0x0102, sp := 4 }, iff1 := true, iff2 := false,
                      nmi := true, int := some 0xFF, im := 1 }
    (preDispatch a).reg.pc = 0x66 ∧ (preDispatch a).bus.mem = #[0, 0, 0x02, 0x01] ∧ (preDispatch a).iff2 = true ∧
    (preDispatch a).iff1 = false ∧ (preDispatch a).int = none := by decide

end Z80
