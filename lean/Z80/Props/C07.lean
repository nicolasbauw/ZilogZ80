/-
  C07 — Bytes inside the declared ROM range never change, whatever is executed.
  Quantifiers: every bus (any size, any window [start,end], also start > end = empty range),
  every address and value, every instruction, every machine state (any control state, pending
  requests), every finite history of steps, timed steps, requests and host byte/word writes.
-/
import Z80.Lemmas.Rom
namespace Z80
open Bus

/-- byte write: no ROM byte changes -/
theorem C07_write_byte (b : Bus) (a x : UInt16) (v : UInt8) (h : b.inRom x = true) :
    (b.writeByte a v).readByte x = b.readByte x := readByte_writeByte_rom b a x v h

/-- word write: no ROM byte changes, for every alignment of the word against both ends -/
theorem C07_write_word (b : Bus) (a x w : UInt16) (h : b.inRom x = true) :
    (b.writeWord a w).readByte x = b.readByte x := readByte_writeWord_rom b a x w h

/-- writes outside the range (and inside the configured memory) still take effect -/
theorem C07_write_effective (b : Bus) (a : UInt16) (v : UInt8) (h1 : a.toNat < b.mem.size) (h2 : b.inRom a = false) :
    (b.writeByte a v).readByte a = v := readByte_writeByte_same b a v ⟨h1, h2⟩

/-- each half of a word write takes effect exactly when its own address is writable -/
theorem C07_write_word_effective (b : Bus) (a w : UInt16) :
    (b.writable (a + 1) → (b.writeWord a w).readByte (a + 1) = (w >>> 8).toUInt8) ∧
    (b.writable a → (b.writeWord a w).readByte a = loByte w) :=
  ⟨fun h => shr8_eq_hiByte w ▸ readByte_writeWord_hi b a w h, readByte_writeWord_lo b a w⟩

/-- the declaration itself and the memory size survive every write -/
theorem C07_declaration_stable (b : Bus) (a w : UInt16) (v : UInt8) :
    (b.writeByte a v).rom = b.rom ∧ (b.writeWord a w).rom = b.rom := ⟨writeByte_rom b a v, writeWord_rom b a w⟩

/-- one instruction, any instruction: no ROM byte changes -/
theorem C07_exec (i : Instr) (len : UInt16) (a : Arch) (x : UInt16) (h : a.bus.inRom x = true) :
    (exec i len a).bus.readByte x = a.bus.readByte x := (exec_romEq i len a).bytes x h

/-- one step of `execute` (halted or not, with NMI / INT acceptance and their pushes) -/
theorem C07_step (c : Cpu) (x : UInt16) (h : c.arch.bus.inRom x = true) :
    (step c).1.arch.bus.readByte x = c.arch.bus.readByte x := (step_romEq c).bytes x h

/-- every history of host calls — no bound on its length — that does not declare a new range (and does not use
    the two utilities that overwrite memory wholesale, `load_bin` and `clear_mem_slice`, which the property does not
    cover): steps, timed steps, requests, byte and word stores, observations, clock settings, register
    assignments.  No byte of the declared range changes and the declaration stays. -/
theorem C07_run (c : Cpu) (es : List Event) (hr : ∀ e ∈ es, e.isSetRom = false ∧ e.overwrites = false) (x : UInt16)
    (h : c.arch.bus.inRom x = true) :
    (run c es).arch.bus.readByte x = c.arch.bus.readByte x ∧ (run c es).arch.bus.rom = c.arch.bus.rom :=
  ⟨(run_romEq c es hr).bytes x h, (run_romEq c es hr).rom⟩

/-- the declaration itself is changed by `set_romspace` and by nothing else: in particular a `load_bin` that
    fails (missing file), one that is refused, one that succeeds, and `clear_mem_slice` all leave the range
    declared, so the stores that follow are still checked against it -/
theorem C07_declaration_persists (c : Cpu) (es : List Event) (hr : ∀ e ∈ es, e.isSetRom = false) :
    (run c es).arch.bus.rom = c.arch.bus.rom := run_rom_decl c es hr

/-- a failed load changes nothing at all -/
theorem C07_failed_load (c : Cpu) (org : UInt16) : runEvent c (.load none org) = c := by
  have h : c.arch.bus.loadBin none org = none ∨ c.arch.bus.loadBin none org = some (.error ()) := by
    unfold Bus.loadBin; split
    · exact .inl rfl
    · exact .inr rfl
  show c.loadBin none org = c
  unfold Cpu.loadBin
  rcases h with h | h <;> rw [h]

/-- "once a ROM range has been declared": after ANY earlier history (stores into what will become ROM,
    earlier declarations, loads, ...) and a declaration [s, e], whatever follows leaves the bytes of [s, e]
    exactly as they were at the moment of the declaration -/
theorem C07_run_redeclare (c : Cpu) (es1 es2 : List Event) (s e : UInt16)
    (hr : ∀ ev ∈ es2, ev.isSetRom = false ∧ ev.overwrites = false)
    (x : UInt16) (hx : s ≤ x ∧ x ≤ e) :
    (run c (es1 ++ [.setRom s e] ++ es2)).arch.bus.readByte x = (run c (es1 ++ [.setRom s e])).arch.bus.readByte x := by
  rw [run_append]
  apply (C07_run _ es2 hr x _).1
  rw [run_append]
  show Bus.inRom (Bus.setRomspace _ s e) x = true
  simp [Bus.inRom, Bus.setRomspace, hx.1, hx.2]

/-- the shapes of a declaration: a one-byte range protects exactly that byte, and a range with start > end protects
    nothing (it is the way to un-declare ROM) - in particular it does not wrap around the address space -/
theorem C07_range_shapes (b : Bus) (a s e x : UInt16) :
    ((b.setRomspace a a).inRom x = true ↔ x = a) ∧ (e < s → (b.setRomspace s e).inRom x = false) := by
  -- `inRom` is `s ≤ x ∧ x ≤ e`: both claims are about the order of the addresses as numbers
  simp only [Bus.inRom, Bus.setRomspace, Bool.and_eq_true, Bool.and_eq_false_iff, decide_eq_true_eq, decide_eq_false_iff_not,
    UInt16.le_iff_toNat_le, UInt16.lt_iff_toNat_lt, ← UInt16.toNat_inj]
  omega

/-- non-vacuity: a word store straddling the start of a ROM window keeps the ROM byte and lands the RAM byte -/
example : let b := (Bus.new 7).setRomspace 4 5
    b.inRom 4 = true ∧ (b.writeWord 3 0xBEEF).readByte 4 = 0 ∧ (b.writeWord 3 0xBEEF).readByte 3 = 0xEF ∧
    (b.writeWord 5 0xBEEF).readByte 6 = 0xBE ∧ (b.writeWord 5 0xBEEF).readByte 5 = 0 := by decide

end Z80
