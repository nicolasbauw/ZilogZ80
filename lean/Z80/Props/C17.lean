/-
  C17 — Execution is deterministic in machine state; diagnostics only observe.
  `Cpu = { arch, debug, slice }`: `arch` is the machine state with the pending requests, `debug`
  the four diagnostic switches with the (possibly stale) text, `slice` the timed-stepping counters.
  `step` is a mathematical function, so "repeating it from an identical state gives an identical
  outcome" holds by construction; the content is what the outcome does *not* depend on.
-/
import Z80.Lemmas.Step
import Z80.Model.Run
namespace Z80

/-- the architectural outcome and the T-states of a step depend on `arch` alone: any switch
    combination, any stale text, any slice counters give the same result -/
theorem C17_diag (c : Cpu) (d : Debug) (sl : Slice) :
    (step { c with debug := d, slice := sl }).1.arch = (step c).1.arch ∧
    (step { c with debug := d, slice := sl }).2 = (step c).2 := ⟨rfl, rfl⟩

/-- the only thing the diagnostics change is the diagnostic record itself, and the slice counters
    are not touched by a plain step -/
theorem C17_diag_only (c : Cpu) : (step c).1.slice = c.slice ∧
    (step c).1.debug.unknw = c.debug.unknw ∧ (step c).1.debug.opcode = c.debug.opcode ∧
    (step c).1.debug.io = c.debug.io ∧ (step c).1.debug.instrIn = c.debug.instrIn := by
  refine ⟨rfl, ?_⟩
  simp only [step, updateDebug]
  split
  · simp
  · split <;> split <;> simp

/-- two machines in the same state behave the same whatever their earlier histories were -/
theorem C17_history (c0 c0' : Cpu) (h h' : List Event) (e : (run c0 h).arch = (run c0' h').arch) :
    (step (run c0 h)).1.arch = (step (run c0' h')).1.arch ∧ (step (run c0 h)).2 = (step (run c0' h')).2 := by
  simp only [step, e]; simp

/-- no request survives a step that is not a halted idle step, so history cannot leak through the latches -/
theorem C17_latches (a : Arch) (h : (a.halt && !a.wakes) = false) :
    (stepArch a).1.int = none ∧ (stepArch a).1.nmi = false := stepArch_latches a h

/-- a halted idle step returns 4 and changes nothing at all -/
theorem C17_idle (a : Arch) (h : (a.halt && !a.wakes) = true) : stepArch a = (a, 4, none) := stepArch_idle a h

/-- non-vacuity -/
example : (step { arch := { bus := { mem := #[0, 0] } }, debug := { unknw := true, opcode := true } }).2 = 4 := by decide +kernel

end Z80
