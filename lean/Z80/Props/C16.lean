/-
  C16 — Disassembly text identifies the bytes and operation the interpreter executes.
  The templates of the disassembler (`dasmBase`, `dasmCB`; holes are symbolic) against the text
  generated from the instruction the *interpreter's decoder* returns for the same byte
  (`Spec.mnemonic (decodeBase op ..)`): one kernel-checked comparison per opcode covers every operand
  byte, register-pair value and address.  IN A,(n) / OUT (n),A (0xDB, 0xD3) are recognised by the
  disassembler but reported as unimplemented I/O by the interpreter; they are left out.
-/
import Z80.Spec.Mnemonic
import Z80.Lemmas.Pc
import Z80.Lemmas.Rows
namespace Z80

/-- the text expected for base opcode `op`: hex column (opcode byte + `k` operand bytes), mnemonic -/
def expectedText (op b1 b2 : UInt8) (k : Nat) : Option String :=
  (Spec.mnemonic (decodeBase op b1 b2).1).map fun m => Spec.showPieces (Spec.hexColumn op k ++ [.lit " "] ++ m)

/-- row check: unrecognised, or I/O, or the template is opcode hex + (all | none of) the operand
    bytes in memory order + the mnemonic of what the interpreter executes -/
def rowOk (op b1 b2 : UInt8) : Bool :=
  let t := dasmBase.getD op.toNat []
  t.isEmpty || op == 0xDB || op == 0xD3 ||
    expectedText op b1 b2 ((decodeBase op b1 b2).2.toNat - 1) == some (Spec.showPieces t) ||
    expectedText op b1 b2 0 == some (Spec.showPieces t)

/-- `rowOk` as a fact about the template `t` and the decoded row -/
def textOk (op : UInt8) (t : List Piece) (r : Instr × UInt16) : Bool :=
  let expected (k : Nat) := (Spec.mnemonic r.1).map fun m => Spec.showPieces (Spec.hexColumn op k ++ [.lit " "] ++ m)
  t.isEmpty || op == 0xDB || op == 0xD3 || expected (r.2.toNat - 1) == some (Spec.showPieces t) ||
    expected 0 == some (Spec.showPieces t)

theorem loc_erase (l : Loc8) : Spec.loc l.erase = Spec.loc l := by
  cases l with
  | reg r => rfl
  | mem m => cases m <;> rfl

/-- the mnemonic (with symbolic holes) does not depend on the operand bytes -/
theorem mnemonic_erase (i : Instr) : Spec.mnemonic (eraseI i) = Spec.mnemonic i := by
  cases i <;> try rfl
  case ld8 d s =>
    cases s with
    | loc l => simp only [eraseI, Op8.erase, Spec.mnemonic, loc_erase]
    | imm n =>
      cases d with
      | reg r => rfl
      | mem m => cases m <;> rfl
  case alu op s =>
    cases s with
    | loc l => simp only [eraseI, Op8.erase, Spec.mnemonic, loc_erase]
    | imm n => rfl
  case inc8 l => simp only [eraseI, Spec.mnemonic, loc_erase]
  case dec8 l => simp only [eraseI, Spec.mnemonic, loc_erase]

/-- every recognised base opcode: the text starts with the hexadecimal of the opcode byte, shows
    operand bytes only in memory order, and its mnemonic and operands are those of the instruction
    the interpreter executes for those bytes — for every operand bytes b1 b2 -/
theorem C16_base (op b1 b2 : UInt8) : rowOk op b1 b2 = true :=
  forall_rows .base dasmBase [] (by decide +kernel) (P := textOk)
    (fun _ _ _ => by simp only [textOk, eraseRow, mnemonic_erase]) (by decide +kernel) op b1 b2

/-- every CB-prefixed opcode: the table entry is the operation and operand the interpreter executes -/
theorem C16_cb (op : UInt8) : Spec.mnemonicCB (decodeCB op).1 = some (dasmCB.getD op.toNat "") :=
  eq_of_beq (forall_u8_table (p := fun op x => Spec.mnemonicCB (decodeCB op).1 == some x) dasmCB "" (by decide +kernel)
    (by decide +kernel) op)

/-- the holes are filled with the bytes actually in memory, the current pair value, and the
    relative target `address + 2 + sext e` -/
theorem C16_holes (a : Arch) (address : UInt16) :
    renderPiece a address .b1 = hex2 (a.bus.readByte (address + 1)) ∧
    renderPiece a address .b2 = hex2 (a.bus.readByte (address + 2)) ∧
    renderPiece a address .w1 = hex4 (a.bus.readWord (address + 1)) ∧
    (∀ r, renderPiece a address (.pair r) = hex4 (a.reg.get16 r)) ∧
    renderPiece a address .rel = hex4 (address + 2 + sext (a.bus.readByte (address + 1))) := by
  refine ⟨rfl, rfl, rfl, fun _ => rfl, ?_⟩
  show hex4 (dasmRel _ _) = _
  rw [dasmRel_eq]

/-- the CB text starts with `CB` and the second opcode byte actually in memory -/
theorem C16_cb_prefix (a : Arch) (address : UInt16) (h : a.bus.readByte address = 0xCB) :
    (dasm a address).1 = "CB" ++ hex2 (a.bus.readByte (address + 1)) ++ " " ++ dasmCB.getD (a.bus.readByte (address + 1)).toNat "" := by
  simp [dasm, h]

/-- the symbolic mnemonic (text after the hex column) of a base opcode -/
def mnemonicText (op : UInt8) : String :=
  match Spec.mnemonic (decodeBase op 0 0).1 with
  | some m => Spec.showPieces m
  | none => ""

/-- a number that determines the text (0: the empty text); the kernel compares numbers far more cheaply than strings -/
def textKey (s : String) : Nat := if s = "" then 0 else 1 + s.toList.foldl (fun h c => h * 256 + c.toNat) 0

theorem textKey_eq_zero (s : String) : textKey s = 0 ↔ s = "" := by
  unfold textKey; split <;> simp [*]

/-- two different recognised opcodes never have the same mnemonic text: their templates differ in
    the literal part or in which register pair / operand fills a hole (so the rendered texts differ
    whenever the registers and operands hold distinct values) -/
theorem C16_distinct_base :
    allBelow 256 (fun i => allBelow 256 (fun j =>
      i == j || mnemonicText (UInt8.ofNat i) == "" || mnemonicText (UInt8.ofNat j) == "" ||
      mnemonicText (UInt8.ofNat i) != mnemonicText (UInt8.ofNat j))) = true := by
  have h := allBelow_pairs (n := 256) (r := fun i j => textKey (mnemonicText (UInt8.ofNat i)) == 0 ||
    textKey (mnemonicText (UInt8.ofNat j)) == 0 || textKey (mnemonicText (UInt8.ofNat i)) != textKey (mnemonicText (UInt8.ofNat j)))
    (fun i j => by rw [Bool.or_comm (_ == 0), bne_comm]) (by decide +kernel)
  refine allBelow_of fun i hi => allBelow_of fun j hj => ?_
  by_cases e : i = j
  · simp [e]
  · have := h i j hi hj e
    simp only [Bool.or_eq_true, beq_iff_eq, bne_iff_ne, textKey_eq_zero] at this ⊢
    rcases this with (h | h) | h
    · exact Or.inl (Or.inl (Or.inr h))
    · exact Or.inl (Or.inr h)
    · exact Or.inr fun e' => h (congrArg textKey e')

theorem C16_distinct_cb :
    allBelow 256 (fun i => allBelow 256 (fun j => i == j || dasmCB.getD i "" != dasmCB.getD j "")) = true := by
  have h := allBelow_pairs (n := 256) (r := fun i j => textKey (dasmCB.getD i "") != textKey (dasmCB.getD j ""))
    (fun _ _ => bne_comm) (by decide +kernel)
  refine allBelow_of fun i hi => allBelow_of fun j hj => ?_
  by_cases e : i = j
  · simp [e]
  · simp only [Bool.or_eq_true, bne_iff_ne]
    exact Or.inr fun e' => bne_iff_ne.mp (h i j hi hj e) (congrArg textKey e')

/-- the text is a function of the memory contents and of the register pairs the templates name, and of nothing
    else: not of PC (the listing of an address does not depend on where the CPU currently is), the alternate set,
    the control state or a pending request -/
theorem C16_state_independent (a a' : Arch) (address : UInt16) (hb : a'.bus = a.bus)
    (hr : ∀ r, a'.reg.get16 r = a.reg.get16 r) : dasm a' address = dasm a address := by
  have hp : ∀ p, renderPiece a' address p = renderPiece a address p := by
    intro p; cases p <;> simp [renderPiece, hb, hr]
  have hf : renderPiece a' address = renderPiece a address := funext hp
  simp only [dasm, render, hb, hf]

theorem C16_pc_independent (a : Arch) (address pc : UInt16) : dasm (a.setPC pc) address = dasm a address :=
  C16_state_independent a (a.setPC pc) address rfl (fun r => by cases r <;> rfl)

theorem C16_request_independent (a : Arch) (address : UInt16) (i : Option UInt8) (n : Bool) :
    dasm { a with int := i, nmi := n } address = dasm a address :=
  C16_state_independent a _ address rfl (fun _ => rfl)

/-- non-vacuity -/
example : Spec.showPieces (dasmBase.getD 0x36 []) = "36 {b1} LD (${HL}),{b1}" ∧ rowOk 0x36 7 9 = true ∧
    mnemonicText 0x56 = "LD D,(${HL})" := by decide +kernel

end Z80
