/-
  C12 — With interrupts disabled a pending maskable request does not disturb execution.
  For every architectural state `a` (any instruction at PC incl. RST, CALL, HALT; halted or not; NMI
  pending or not; any mode; IFF2 either way) with IFF1 clear, and every request byte `b`.
-/
import Z80.Lemmas.Step
namespace Z80

/-- what `execute` hands to the dispatcher does not depend on a masked request -/
theorem C12_pre (a : Arch) (b : UInt8) (h : a.iff1 = false) :
    preDispatch { a with int := some b } = preDispatch { a with int := none } := by
  -- an NMI drops the request, and otherwise it is masked: either way the latch is cleared before the dispatch
  rcases Bool.eq_false_or_eq_true a.nmi with hn | hn
  · rw [preDispatch_nmi_taken { a with int := some b } hn, preDispatch_nmi_taken { a with int := none } hn,
      wake_eq, wake_eq]
    rfl
  · rw [preDispatch_none { a with int := some b } hn (Or.inl h), preDispatch_none { a with int := none } hn (Or.inl h),
      wake_eq, wake_eq]

/-- the step with the masked request pending = the step without it: same registers, flags, memory
    (hence stack contents), PC, control state and T-states.  Only a halted, un-woken CPU keeps the
    request latched, which is the one field left out (`int`). -/
theorem C12_step (a : Arch) (b : UInt8) (h : a.iff1 = false) :
    let r1 := stepArch { a with int := some b }
    let r0 := stepArch { a with int := none }
    { r1.1 with int := none } = { r0.1 with int := none } ∧ r1.2.1 = r0.2.1 ∧ r1.2.2 = r0.2.2 := by
  have hw : ({ a with int := some b } : Arch).wakes = ({ a with int := none } : Arch).wakes := by
    simp [Arch.wakes, h]
  simp only [stepArch, hw, C12_pre a b h]
  split <;> simp

/-- when the CPU is not idling in a halt the two outcomes are equal in every field -/
theorem C12_step_running (a : Arch) (b : UInt8) (h : a.iff1 = false) (hr : a.halt = false ∨ a.nmi = true) :
    stepArch { a with int := some b } = stepArch { a with int := none } := by
  have hw : ({ a with int := some b } : Arch).wakes = ({ a with int := none } : Arch).wakes := by
    simp [Arch.wakes, h]
  have hnot : (({ a with int := none } : Arch).halt && !({ a with int := none } : Arch).wakes) = false := by
    rcases hr with hr | hr <;> simp [Arch.wakes, hr]
  rw [stepArch_running _ (hw ▸ hnot), stepArch_running _ hnot, C12_pre a b h]

/-- at the level of `CPU::execute`: registers, flags, memory, T-states and diagnostics agree -/
theorem C12_execute (c : Cpu) (b : UInt8) (h : c.arch.iff1 = false) :
    let c1 := step { c with arch := { c.arch with int := some b } }
    let c0 := step { c with arch := { c.arch with int := none } }
    c1.1.arch.reg = c0.1.arch.reg ∧ c1.1.arch.alt = c0.1.arch.alt ∧ c1.1.arch.bus = c0.1.arch.bus ∧
    c1.1.arch.halt = c0.1.arch.halt ∧ c1.1.arch.iff1 = c0.1.arch.iff1 ∧ c1.1.arch.iff2 = c0.1.arch.iff2 ∧
    c1.1.arch.im = c0.1.arch.im ∧ c1.1.arch.nmi = c0.1.arch.nmi ∧ c1.2 = c0.2 ∧ c1.1.debug = c0.1.debug := by
  obtain ⟨h1, h2, h3⟩ := C12_step c.arch b h
  simp only [step] at *
  have e := congrArg (fun (x : Arch) => (x.reg, x.alt, x.bus, x.halt, x.iff1, x.iff2, x.im, x.nmi)) h1
  simp only [Prod.mk.injEq] at e
  obtain ⟨e1, e2, e3, e4, e5, e6, e7, e8⟩ := e
  exact ⟨e1, e2, e3, e4, e5, e6, e7, e8, h2, by rw [h3]⟩

/-- timed stepping does not see the masked request either: same request for a sleep, same slice counters
    (nothing is booked for a request that is not accepted), same architectural outcome -/
theorem C12_timed (c : Cpu) (b : UInt8) (el : Option UInt32) (h : c.arch.iff1 = false) :
    let t1 := executeTimed { c with arch := { c.arch with int := some b } } el
    let t0 := executeTimed { c with arch := { c.arch with int := none } } el
    t1.2 = t0.2 ∧ t1.1.slice = t0.1.slice ∧ t1.1.debug = t0.1.debug ∧
    ({ t1.1.arch with int := none } : Arch) = { t0.1.arch with int := none } := by
  obtain ⟨h1, h2, h3⟩ := C12_step c.arch b h
  have e2 : (step { c with arch := { c.arch with int := some b } }).2 = (step { c with arch := { c.arch with int := none } }).2 := h2
  have e3 : (step { c with arch := { c.arch with int := some b } }).1.debug =
      (step { c with arch := { c.arch with int := none } }).1.debug := by
    show updateDebug c.debug _ = updateDebug c.debug _
    rw [h3]
  refine ⟨rfl, ?_, e3, h1⟩
  simp only [executeTimed, sliceFires]
  rw [e2]
  rfl

/-- non-vacuity: RST 10 fetched from memory with a masked request pending pushes the following address -/
example :
    let a : Arch := { bus := { mem := #[0xD7, 0, 0, 0, 0, 0, 0, 0] }, reg := { sp := 8 }, int := some 0xCF, iff1 := false }
    (stepArch a).1.reg.pc = 0x10 ∧ (stepArch a).1.bus.mem = #[0xD7, 0, 0, 0, 0, 0, 1, 0] := by decide

end Z80
