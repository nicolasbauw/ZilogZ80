/-
  C20 — Host-side memory utilities move exactly the requested bytes.
  For every bus (any size, any ROM window), every in-range pair start <= end, every file
  content and every origin at which the file fits.  The file system is a parameter: `none` =
  the file cannot be opened.
-/
import Z80.Model.Basic
namespace Z80
open Bus

private theorem copyLoop_size (m : Array UInt8) (o : Nat) (l : List UInt8) : (copyLoop m o l).size = m.size := by
  induction l generalizing m o with
  | nil => rfl
  | cons x xs ih => simp [copyLoop, ih]

private theorem copyLoop_get (m : Array UInt8) (o : Nat) (l : List UInt8) (x : Nat) (hfit : o + l.length ≤ m.size) :
    (copyLoop m o l)[x]? = if o ≤ x ∧ x < o + l.length then l[x - o]? else m[x]? := by
  induction l generalizing m o with
  | nil => simp [copyLoop]; intro h1 h2; omega
  | cons y ys ih =>
    simp only [copyLoop, List.length_cons] at *
    rw [ih _ _ (by simp; omega), Array.getElem?_setIfInBounds]
    by_cases h1 : o = x
    · subst h1
      have : ¬ (o + 1 ≤ o ∧ o < o + 1 + ys.length) := by omega
      have h2 : o < m.size := by omega
      simp [this, h2]
    · by_cases h3 : o + 1 ≤ x ∧ x < o + 1 + ys.length
      · have h4 : o ≤ x ∧ x < o + (ys.length + 1) := by omega
        have h5 : x - o = (x - (o + 1)) + 1 := by omega
        simp [h3, h4, h5]
      · have h4 : ¬ (o ≤ x ∧ x < o + (ys.length + 1)) := by omega
        simp [h3, h4, h1]

/-- clearing is loading zeros -/
private theorem clearLoop_eq_copyLoop (m : Array UInt8) (s n : Nat) : clearLoop m s n = copyLoop m s (List.replicate n 0) := by
  induction n generalizing m s with
  | zero => rfl
  | succ n ih => exact ih _ _

/-- reading a slice returns exactly the bytes stored at start..end inclusive -/
theorem C20_read_slice (b : Bus) (s e : Nat) (h1 : s ≤ e) (h2 : e < b.mem.size) :
    ∃ l, b.readMemSlice s e = some l ∧ l.length = e - s + 1 ∧
      ∀ i, i < l.length → l[i]? = b.mem[s + i]? := by
  refine ⟨(b.mem.extract s (e + 1)).toList, by simp [readMemSlice, h1, h2], by simp; omega, ?_⟩
  intro i hi
  simp at hi
  rw [Array.getElem?_toList, Array.getElem?_extract]
  simp
  intro h; omega

/-- clearing a slice zeroes exactly those bytes, changes no other byte, nor the size or the ROM declaration -/
theorem C20_clear_slice (b : Bus) (s e : Nat) (h1 : s ≤ e) (h2 : e < b.mem.size) :
    ∃ b', b.clearMemSlice s e = some b' ∧ b'.mem.size = b.mem.size ∧ b'.rom = b.rom ∧
      ∀ x, b'.mem[x]? = if s ≤ x ∧ x ≤ e then some 0 else b.mem[x]? := by
  refine ⟨{ b with mem := clearLoop b.mem s (e + 1 - s) }, by simp [clearMemSlice, h1, h2], ?_, rfl, fun x => ?_⟩
  · rw [clearLoop_eq_copyLoop]; exact copyLoop_size _ _ _
  · show (clearLoop b.mem s (e + 1 - s))[x]? = _
    rw [clearLoop_eq_copyLoop, copyLoop_get _ _ _ _ (by simp; omega), List.length_replicate]
    by_cases h : s ≤ x ∧ x ≤ e
    · have : s ≤ x ∧ x < s + (e + 1 - s) := by omega
      rw [if_pos h, if_pos this, List.getElem?_replicate, if_pos (by omega)]
    · have : ¬ (s ≤ x ∧ x < s + (e + 1 - s)) := by omega
      simp [h, this]

/-- in byte terms: inside the slice reads give 0, outside they are unchanged -/
theorem C20_clear_slice_bytes (b : Bus) (s e : Nat) (h1 : s ≤ e) (h2 : e < b.mem.size) (a : UInt16) :
    ∃ b', b.clearMemSlice s e = some b' ∧
      b'.readByte a = if s ≤ a.toNat ∧ a.toNat ≤ e then 0 else b.readByte a := by
  obtain ⟨b', hb, _, _, hx⟩ := C20_clear_slice b s e h1 h2
  refine ⟨b', hb, ?_⟩
  unfold readByte
  rw [Array.getD_eq_getD_getElem?, Array.getD_eq_getD_getElem?, hx]
  split <;> simp

/-- loading a file that fits copies its bytes to consecutive addresses from the origin, reports its
    length and leaves every other byte unchanged -/
theorem C20_load_bin (b : Bus) (bytes : List UInt8) (org : UInt16) (hfit : org.toNat + bytes.length ≤ b.mem.size)
    (horg : org.toNat < b.mem.size) :
    ∃ b', b.loadBin (some bytes) org = some (.ok (b', bytes.length)) ∧ b'.mem.size = b.mem.size ∧ b'.rom = b.rom ∧
      ∀ x, b'.mem[x]? = if org.toNat ≤ x ∧ x < org.toNat + bytes.length then bytes[x - org.toNat]? else b.mem[x]? := by
  refine ⟨{ b with mem := copyLoop b.mem org.toNat bytes }, ?_, copyLoop_size _ _ _, rfl, ?_⟩
  · simp [loadBin, hfit]; omega
  · intro x; exact copyLoop_get _ _ _ _ hfit

/-- a missing file is an error value, not an abort, and changes nothing (no new bus is produced) -/
theorem C20_load_missing (b : Bus) (org : UInt16) (horg : org.toNat < b.mem.size) :
    b.loadBin none org = some (.error ()) := by
  simp [loadBin]; omega

/-- non-vacuity -/
example : (Bus.new 7).readMemSlice 2 5 = some [0, 0, 0, 0] ∧
    ((Bus.new 3).loadBin (some [1, 2, 3]) 1).isSome = true := by decide

end Z80
